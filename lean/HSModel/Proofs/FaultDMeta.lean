/-
  FaultDMeta — `delete_metadata(pid, format)` under an arbitrary fault plan: the document is
  gone and the call returns, or an error is raised and every document is as before. Helper lemmas.
-/
import HSModel.Proofs.FaultMeta
set_option linter.unusedSimpArgs false
namespace HS
variable (cfg : Config) (o : Oracle)

/-- an existence probe is no fault site: it answers from the store and changes nothing -/
theorem respond_isFile (w : World) (l : Loc) :
    ∃ w1, respond w (.isFile l) = (.bool (w.st.isFile l), w1) ∧ w1.st = w.st ∧ w1.lk = w.lk :=
  ⟨w, respond_of_no_sites rfl w, rfl, rfl⟩

theorem FMap.delL_of_getL_none {K V : Type} [DecidableEq K] (l : List (K × V)) (k : K) (h : FMap.getL l k = none) :
    FMap.delL l k = l := by
  induction l with
  | nil => rfl
  | cons a r ih =>
    obtain ⟨k', v⟩ := a
    by_cases e : k' = k
    · simp [FMap.getL, e] at h
    · simp only [FMap.getL, e, if_false] at h
      simp [FMap.delL, e, ih h]

theorem FMap.del_of_get_none {K V : Type} [DecidableEq K] {m : FMap K V} {k : K} (h : m.get k = none) : m.del k = m := by
  cases m with
  | mk l => simp only [FMap.del]; congr; exact FMap.delL_of_getL_none l k h

theorem apply_remove_mdoc {s s' : Store} {d n : Str} (h : s.apply (.remove (.mdoc d n)) = some s') :
    s'.mdocs = s.mdocs.del (d, n) := by
  cases Store.apply_eq_some h; rfl

/-- `delete_metadata(p, f)` for one format, accepted arguments, the document's name free, under ANY
    fault plan and from any store: it returns and the document is gone (every other document as
    before), or it raises and every document is as before -/
theorem dmeta_error_or_effect (w : World) (p f : Str) (fmt : SArg) (hfmt : fmt ≠ .none)
    (hp : checkStringOk p = true) (hf : checkArgFormatId cfg.ns fmt = .ok f)
    (hfree : o.hId (p ++ f) ∉ w.lk.doc) :
    (((deleteMetadata cfg o (.str p) fmt).run w).1 = .ok .unit ∧
        ((deleteMetadata cfg o (.str p) fmt).run w).2.st.mdocs = w.st.mdocs.del (o.hId p, o.hId (p ++ f))) ∨
      (∃ e, ((deleteMetadata cfg o (.str p) fmt).run w).1 = .error e ∧
        ((deleteMetadata cfg o (.str p) fmt).run w).2.st.mdocs = w.st.mdocs) := by
  have hps : checkString (.str p) = .ok p := by simp [checkString, hp]
  obtain ⟨w1, h1, hs1, hl1⟩ := respond_acquire_free w .doc (o.hId (p ++ f)) hfree
  have hheld : ∀ w' : World, w'.lk = w1.lk → o.hId (p ++ f) ∈ w'.lk.get .doc := by
    intro w' e; rw [e, hl1]; simp [Locks.get, Locks.put]
  obtain ⟨w2, h2, hs2, hl2⟩ := respond_isFile w1 (.mdoc (o.hId p) (o.hId (p ++ f)))
  have hsel : (match fmt with | .none => (none : Option Str) | _ => some f) = some f := by
    cases fmt <;> first | rfl | exact absurd rfl hfmt
  simp only [deleteMetadata, deleteMetadataCore, hsel, withDocLock, PE.ofExcept, PE.withFinally, bind, PE.bind',
    PE.pure', PE.throw', Prog.bind, acquire, release, unitPrim, PE.prim, eff, isFile, pure, hps, hf,
    Prog.run, h1, h2]
  cases hb : w1.st.isFile (.mdoc (o.hId p) (o.hId (p ++ f))) with
  | false =>
    -- nothing to delete
    obtain ⟨w3, h3, hs3, _⟩ := respond_release_held w2 .doc (o.hId (p ++ f)) (hheld w2 hl2)
    simp only [Bool.false_eq_true, ↓reduceIte, Prog.bind, Prog.run, h3]
    left
    refine ⟨trivial, ?_⟩
    rw [hs3, hs2, hs1]
    have : w.st.mdocs.get (o.hId p, o.hId (p ++ f)) = none := by
      rw [hs1] at hb
      simpa [Store.isFile, FMap.contains] using hb
    exact (FMap.del_of_get_none this).symm
  | true =>
    simp only [↓reduceIte, Prog.bind, Prog.run]
    rcases respond_eff_cases w2 (.remove (.mdoc (o.hId p) (o.hId (p ++ f)))) with
      ⟨e3, w3, h3, hs3, hl3⟩ | ⟨s3, w3, ha3, h3, hs3, hl3⟩
    · obtain ⟨w4, h4, hs4, _⟩ := respond_release_held w3 .doc (o.hId (p ++ f)) (hheld w3 (by rw [hl3, hl2]))
      simp only [h3, Prog.bind, Prog.run, h4]
      exact Or.inr ⟨_, rfl, by rw [hs4, hs3, hs2, hs1]⟩
    · obtain ⟨w4, h4, hs4, _⟩ := respond_release_held w3 .doc (o.hId (p ++ f)) (hheld w3 (by rw [hl3, hl2]))
      simp only [h3, Prog.bind, Prog.run, h4]
      exact Or.inl ⟨trivial, by rw [hs4, hs3, apply_remove_mdoc ha3, hs2, hs1]⟩

end HS
