/-
  SerialTest — serialisation up to refusal: threads that first ask whether an
  identifier is being worked on (store_object's in-progress test), return a
  refusal if it is, and otherwise do all their work under the claim of that
  identifier. Built on the invariant of Proofs/Serial.lean, in which only the
  threads that have asked take part. Helper lemmas; statements in Props/C07.lean.
-/
import HSModel.Proofs.Serial
namespace HS

/-! ### calls that ask first whether the identifier is being worked on (store_object) -/

theorem respond_inProgress (w : World) (i : Str) : respond w (.inProgress i) = (.bool (decide (i ∈ w.lk.objPid)), w) :=
  respond_of_no_sites rfl w

theorem seqStep_set_ne (progs : List (Prog (Except Exc Val))) (j k : Nat) (x : Prog (Except Exc Val))
    (acc : World × Results) (h : k ≠ j) : seqStep (progs.set j x) acc k = seqStep progs acc k := by
  unfold seqStep
  rw [List.getElem?_set_ne (Ne.symm h)]

theorem foldl_seqStep_set (progs : List (Prog (Except Exc Val))) (j : Nat) (x : Prog (Except Exc Val))
    (l : List Nat) (acc : World × Results) (h : j ∉ l) :
    l.foldl (seqStep (progs.set j x)) acc = l.foldl (seqStep progs) acc := by
  induction l generalizing acc with
  | nil => rfl
  | cons a r ih =>
    simp only [List.foldl_cons]
    rw [seqStep_set_ne _ _ _ _ _ (fun e => h (by rw [← e]; exact List.mem_cons_self ..))]
    exact ih _ (fun hm => h (List.mem_cons_of_mem _ hm))

theorem seqRun_set (progs : List (Prog (Except Exc Val))) (j : Nat) (x : Prog (Except Exc Val))
    (order : List Nat) (w0 : World) (h : j ∉ order) : seqRun (progs.set j x) order w0 = seqRun progs order w0 :=
  foldl_seqStep_set progs j x order _ h

section
variable (c : LockClass) (i : Str) (post : List Lock → Except Exc Val → Prop) (act : Nat → Prop)
  (progs : List (Prog (Except Exc Val))) (w0 : World)

/-- the state of a thread that takes no part yet may change freely -/
theorem sinv_frame {cf : Conf} {done : List Nat} {cur : Option Nat} (h : SInv c i post act progs w0 cf done cur)
    (j : Nat) (t' : TState) (hd : j ∉ done) (hc : some j ≠ cur) (ha : ¬ act j) :
    SInv c i post act progs w0 { w := cf.w, ts := cf.ts.set j t' } done cur := by
  have hne : ∀ j', j' ≠ j → (cf.ts.set j t')[j']? = cf.ts[j']? := by
    intro j' hne; rw [List.getElem?_set_ne (Ne.symm hne)]
  refine ⟨by simpa using h.len, h.nodup, h.dlt, ?_, ?_, h.curNone, ?_⟩
  · intro j' hj' t ht
    have e : j' ≠ j := fun e => hd (e ▸ hj')
    rw [hne j' e] at ht; exact h.dret j' hj' t ht
  · intro j' t p ha' hj' hc' ht hp
    have e : j' ≠ j := fun e => ha (e ▸ ha')
    rw [hne j' e] at ht; exact h.wait j' t p ha' hj' hc' ht hp
  · intro a hca
    obtain ⟨h3, h4, t, p, hl, h5, rest⟩ := h.curSome a hca
    have e : a ≠ j := fun e => hc (by rw [hca, e])
    exact ⟨h3, h4, t, p, hl, by rw [hne a e]; exact h5, rest⟩

/-- a thread that took no part joins, standing before its acquire with program `x` -/
theorem sinv_activate {cf : Conf} {done : List Nat} {cur : Option Nat} (h : SInv c i post act progs w0 cf done cur)
    (j : Nat) (t' : TState) (x : Prog (Except Exc Val)) (hjlt : j < cf.ts.length) (hd : j ∉ done) (hc : some j ≠ cur)
    (ha : ¬ act j) (hw : Waiting c i post t' x) :
    SInv c i post (fun n => act n ∨ n = j) (progs.set j x) w0 { w := cf.w, ts := cf.ts.set j t' } done cur := by
  have hne : ∀ j', j' ≠ j → (cf.ts.set j t')[j']? = cf.ts[j']? := by
    intro j' hne; rw [List.getElem?_set_ne (Ne.symm hne)]
  have hpne : ∀ j', j' ≠ j → (progs.set j x)[j']? = progs[j']? := by
    intro j' hne; rw [List.getElem?_set_ne (Ne.symm hne)]
  have hjlt' : j < progs.length := h.len ▸ hjlt
  have hseq : seqRun (progs.set j x) done w0 = seqRun progs done w0 := seqRun_set progs j x done w0 hd
  refine ⟨by simpa using h.len, h.nodup, by simpa using h.dlt, ?_, ?_, ?_, ?_⟩
  · intro j' hj' t ht
    have e : j' ≠ j := fun e => hd (e ▸ hj')
    rw [hne j' e] at ht; rw [hseq]; exact h.dret j' hj' t ht
  · intro j' t p ha' hj' hc' ht hp
    by_cases e : j' = j
    · subst e
      rw [List.getElem?_set_self hjlt] at ht; cases ht
      rw [List.getElem?_set_self hjlt'] at hp; cases hp
      exact hw
    · rw [hne j' e] at ht; rw [hpne j' e] at hp
      rcases ha' with ha' | ha'
      · exact h.wait j' t p ha' hj' hc' ht hp
      · exact (e ha').elim
  · intro hn; rw [hseq]; exact h.curNone hn
  · intro a hca
    obtain ⟨h3, h4, t, p, hl, h5, h6, rest⟩ := h.curSome a hca
    have e : a ≠ j := fun e => hc (by rw [hca, e])
    rw [hseq]
    exact ⟨h3, h4, t, p, hl, by rw [hne a e]; exact h5, by rw [hpne a e]; exact h6, rest⟩

/-- a thread that took no part is turned away: its program becomes the refusal, it has nothing left to do -/
theorem sinv_reject {cf : Conf} {done : List Nat} {cur : Option Nat} (h : SInv c i post act progs w0 cf done cur)
    (j : Nat) (t' : TState) (v : Except Exc Val) (hjlt : j < cf.ts.length) (hd : j ∉ done) (hc : some j ≠ cur)
    (ha : ¬ act j) (hv : t'.prog = .ret v) :
    SInv c i post (fun n => act n ∨ n = j) (progs.set j (.ret v)) w0 { w := cf.w, ts := cf.ts.set j t' } (done ++ [j]) cur := by
  have hne : ∀ j', j' ≠ j → (cf.ts.set j t')[j']? = cf.ts[j']? := by
    intro j' hne; rw [List.getElem?_set_ne (Ne.symm hne)]
  have hpne : ∀ j', j' ≠ j → (progs.set j (.ret v))[j']? = progs[j']? := by
    intro j' hne; rw [List.getElem?_set_ne (Ne.symm hne)]
  have hjlt' : j < progs.length := h.len ▸ hjlt
  have hseq0 : seqRun (progs.set j (.ret v)) done w0 = seqRun progs done w0 := seqRun_set progs j _ done w0 hd
  have hseq : seqRun (progs.set j (.ret v)) (done ++ [j]) w0 =
      ((seqRun progs done w0).1, (seqRun progs done w0).2 ++ [(j, v)]) := by
    rw [seqRun_snoc, hseq0]
    simp only [seqStep, List.getElem?_set_self hjlt']
    rfl
  refine ⟨by simpa using h.len, ?_, ?_, ?_, ?_, ?_, ?_⟩
  · rw [List.nodup_append]
    refine ⟨h.nodup, by simp, ?_⟩
    intro a ha' b hb
    simp only [List.mem_singleton] at hb; subst hb
    intro e; subst e; exact hd ha'
  · intro j' hj'
    rcases List.mem_append.mp hj' with hj' | hj'
    · simpa using h.dlt j' hj'
    · simp only [List.mem_singleton] at hj'; subst hj'; simpa using hjlt'
  · intro j' hj' t ht
    rw [hseq]
    rcases List.mem_append.mp hj' with hj' | hj'
    · have e : j' ≠ j := fun e => hd (e ▸ hj')
      rw [hne j' e] at ht
      obtain ⟨v', h1, h2⟩ := h.dret j' hj' t ht
      exact ⟨v', h1, List.mem_append_left _ h2⟩
    · simp only [List.mem_singleton] at hj'; subst hj'
      rw [List.getElem?_set_self hjlt] at ht; cases ht
      exact ⟨v, hv, List.mem_append_right _ (by simp)⟩
  · intro j' t p ha' hj' hc' ht hp
    have hj1 : j' ∉ done := fun e => hj' (List.mem_append_left _ e)
    have e : j' ≠ j := fun e => hj' (List.mem_append_right _ (by simp [e]))
    rw [hne j' e] at ht; rw [hpne j' e] at hp
    rcases ha' with ha' | ha'
    · exact h.wait j' t p ha' hj1 hc' ht hp
    · exact (e ha').elim
  · intro hn; rw [hseq]; exact h.curNone hn
  · intro a hca
    obtain ⟨h3, h4, t, p, hl, h5, h6, rest⟩ := h.curSome a hca
    have e : a ≠ j := fun e => hc (by rw [hca, e])
    rw [hseq]
    refine ⟨?_, h4, t, p, hl, by rw [hne a e]; exact h5, by rw [hpne a e]; exact h6, rest⟩
    intro hm
    rcases List.mem_append.mp hm with hm | hm
    · exact h3 hm
    · simp only [List.mem_singleton] at hm; exact e hm

end

section
variable (i : Str) (rejv : Except Exc Val) (post : List Lock → Except Exc Val → Prop)
  (progs0 : List (Prog (Except Exc Val))) (w0 : World)

/-- a program that first asks whether `i` is in the object-pid list, returns `rejv` if so, and
    otherwise goes on to claim `i` there and do all its work under that claim -/
def TestShape (p : Prog (Except Exc Val)) (k k2 : Resp → Prog (Except Exc Val)) : Prop :=
  p = .op (.inProgress i) k ∧ k (.bool true) = .ret rejv ∧ k (.bool false) = .op (.acquire .objPid i) k2 ∧
  (k2 .unit).FinU .objPid i ∧ (k2 .unit).Disc post [⟨.objPid, i⟩]

/-- a thread program of the family: returns at once, or has the shape above -/
def Prog.Tested (p : Prog (Except Exc Val)) : Prop := p.Quiet ∨ ∃ k k2, TestShape i rejv post p k k2

/-- `progs'`: what each thread's program has become — unchanged while it has not asked; the
    refusal if it was turned away; its continuation after the answer "no" otherwise -/
structure SInvT (cf : Conf) (progs' : List (Prog (Except Exc Val))) (tested : Nat → Prop) (done : List Nat)
    (cur : Option Nat) : Prop where
  base : SInv .objPid i post tested progs' w0 cf done cur
  plen : progs'.length = progs0.length
  untested : ∀ (j : Nat) (t : TState) (p : Prog (Except Exc Val)), ¬ tested j → cf.ts[j]? = some t → progs0[j]? = some p →
      t.prog = p ∧ progs'[j]? = some p ∧ j ∉ done ∧ some j ≠ cur ∧ ∃ k k2, TestShape i rejv post p k k2
  shape : ∀ (j : Nat) (p : Prog (Except Exc Val)), tested j → progs0[j]? = some p →
      progs'[j]? = some p ∨ ∃ k k2, TestShape i rejv post p k k2 ∧
        (progs'[j]? = some (.ret rejv) ∨ progs'[j]? = some (k (.bool false)))

theorem fresh_test_step (fuel : Nat) (k : Resp → Prog (Except Exc Val)) (w : World) :
    ((TState.fresh (.op (.inProgress i) k)).step fuel w).1.prog = .op (.inProgress i) k ∧
    ((TState.fresh (.op (.inProgress i) k)).step fuel w).2 = w := by
  cases fuel <;> exact ⟨rfl, rfl⟩

theorem runToBoundary_acquire (fuel : Nat) (c : LockClass) (k : Resp → Prog (Except Exc Val)) (w : World) :
    (runToBoundary fuel (.op (.acquire c i) k) w).1.prog = .op (.acquire c i) k ∧
    (runToBoundary fuel (.op (.acquire c i) k) w).2 = w := by
  cases fuel <;> exact ⟨rfl, rfl⟩

theorem sinvT_step {cf : Conf} {progs' : List (Prog (Except Exc Val))} {tested : Nat → Prop} {done : List Nat}
    {cur : Option Nat} (h : SInvT i rejv post progs0 w0 cf progs' tested done cur)
    (fuel j : Nat) (t : TState) (hj : cf.ts[j]? = some t) (hen : t.enabled cf.w = true) :
    ∃ progs'' tested' done' cur',
      SInvT i rejv post progs0 w0 { w := (t.step fuel cf.w).2, ts := cf.ts.set j (t.step fuel cf.w).1 } progs'' tested' done' cur' := by
  have hjlt : j < cf.ts.length := by
    rcases Nat.lt_or_ge j cf.ts.length with h1 | h1
    · exact h1
    · rw [List.getElem?_eq_none h1] at hj; cases hj
  have hjlt0 : j < progs0.length := by rw [← h.plen, ← h.base.len]; exact hjlt
  have hp0 : progs0[j]? = some progs0[j] := List.getElem?_eq_getElem hjlt0
  have hne : ∀ (j' : Nat) (x : TState), j' ≠ j → (cf.ts.set j x)[j']? = cf.ts[j']? := by
    intro j' x hne; rw [List.getElem?_set_ne (Ne.symm hne)]
  by_cases hts : tested j
  · -- a thread that has asked: the serialisation step
    obtain ⟨done', cur', hb, hdone, hcur⟩ := sinv_step .objPid i post tested progs' w0 h.base fuel j t hj hen (fun _ _ => hts)
    refine ⟨progs', tested, done', cur', ⟨hb, h.plen, ?_, h.shape⟩⟩
    intro j' t' p hnt ht' hp
    have e : j' ≠ j := fun e => hnt (e ▸ hts)
    rw [hne j' _ e] at ht'
    obtain ⟨h1, h2, h3, h4, h5⟩ := h.untested j' t' p hnt ht' hp
    refine ⟨h1, h2, ?_, ?_, h5⟩
    · intro hm
      rcases hdone j' hm with hm | hm
      · exact h3 hm
      · exact e hm
    · rcases hcur with hc | hc | hc
      · rw [hc]; exact h4
      · rw [hc]; intro e'; cases e'; exact e rfl
      · rw [hc]; intro e'; cases e'
  · -- a thread that has not asked yet
    obtain ⟨hprog, hp', hd, hc, k, k2, hshape⟩ := h.untested j t _ hts hj hp0
    obtain ⟨hpk, hktrue, hkfalse, hfin, hdisc⟩ := hshape
    cases t with
    | finished r => rw [hpk] at hprog; cases hprog
    | fresh q =>
      have hq : q = .op (.inProgress i) k := by rw [← hpk]; exact hprog
      subst hq
      obtain ⟨h1, h2⟩ := fresh_test_step i fuel k cf.w
      refine ⟨progs', tested, done, cur, ⟨?_, h.plen, ?_, h.shape⟩⟩
      · rw [h2]; exact sinv_frame .objPid i post tested progs' w0 h.base j _ hd hc hts
      · intro j' t' p hnt ht' hp
        by_cases e : j' = j
        · subst e
          rw [List.getElem?_set_self hjlt] at ht'; cases ht'
          rw [hp0] at hp; cases hp
          exact ⟨by rw [h1, hpk], hp', hd, hc, k, k2, hpk, hktrue, hkfalse, hfin, hdisc⟩
        · rw [hne j' _ e] at ht'; exact h.untested j' t' p hnt ht' hp
    | «at» e k' =>
      have he : e = .inProgress i ∧ k' = k := by
        rw [hpk] at hprog
        simp only [TState.prog, Prog.op.injEq] at hprog; exact ⟨hprog.1, hprog.2⟩
      obtain ⟨he1, he2⟩ := he
      subst he1; subst he2
      have hstep : (TState.at (.inProgress i) k').step fuel cf.w
          = runToBoundary fuel (k' (.bool (decide (i ∈ cf.w.lk.objPid)))) cf.w := by
        show runToBoundary fuel (k' (respond cf.w (.inProgress i)).1) (respond cf.w (.inProgress i)).2 = _
        rw [respond_inProgress]
      rw [hstep]
      by_cases hb : i ∈ cf.w.lk.objPid
      · -- turned away
        simp only [hb, decide_true, hktrue]
        obtain ⟨h1, h2⟩ := quiet_runToBoundary fuel (.ret rejv) cf.w trivial
        rw [h2]
        refine ⟨progs'.set j (.ret rejv), fun n => tested n ∨ n = j, done ++ [j], cur,
          ⟨sinv_reject .objPid i post tested progs' w0 h.base j _ rejv hjlt hd hc hts h1, by simpa using h.plen, ?_, ?_⟩⟩
        · intro j' t' p hnt ht' hp
          have e : j' ≠ j := fun e => hnt (Or.inr e)
          have hnt' : ¬ tested j' := fun x => hnt (Or.inl x)
          rw [hne j' _ e] at ht'
          obtain ⟨a1, a2, a3, a4, a5⟩ := h.untested j' t' p hnt' ht' hp
          refine ⟨a1, by rw [List.getElem?_set_ne (Ne.symm e)]; exact a2, ?_, a4, a5⟩
          intro hm
          rcases List.mem_append.mp hm with hm | hm
          · exact a3 hm
          · simp only [List.mem_singleton] at hm; exact e hm
        · intro j' p hts' hp
          by_cases e : j' = j
          · subst e
            rw [hp0] at hp; cases hp
            right
            exact ⟨k', k2, ⟨hpk, hktrue, hkfalse, hfin, hdisc⟩,
              Or.inl (by rw [List.getElem?_set_self (h.plen ▸ hjlt0)])⟩
          · rcases hts' with hts' | hts'
            · rcases h.shape j' p hts' hp with a | ⟨ka, kb, hs, a⟩
              · left; rw [List.getElem?_set_ne (Ne.symm e)]; exact a
              · right; refine ⟨ka, kb, hs, ?_⟩
                rw [List.getElem?_set_ne (Ne.symm e)]; exact a
            · exact (e hts').elim
      · -- let through: nobody is inside
        simp only [hb, decide_false, hkfalse]
        obtain ⟨h1, h2⟩ := runToBoundary_acquire i fuel .objPid k2 cf.w
        rw [h2]
        have hw : Waiting .objPid i post (runToBoundary fuel (.op (.acquire .objPid i) k2) cf.w).1 (k' (.bool false)) := by
          rw [hkfalse]; exact ⟨h1, k2, rfl, hfin, hdisc⟩
        refine ⟨progs'.set j (k' (.bool false)), fun n => tested n ∨ n = j, done, cur,
          ⟨sinv_activate .objPid i post tested progs' w0 h.base j _ _ hjlt hd hc hts hw, by simpa using h.plen, ?_, ?_⟩⟩
        · intro j' t' p hnt ht' hp
          have e : j' ≠ j := fun e => hnt (Or.inr e)
          have hnt' : ¬ tested j' := fun x => hnt (Or.inl x)
          rw [hne j' _ e] at ht'
          obtain ⟨a1, a2, a3, a4, a5⟩ := h.untested j' t' p hnt' ht' hp
          exact ⟨a1, by rw [List.getElem?_set_ne (Ne.symm e)]; exact a2, a3, a4, a5⟩
        · intro j' p hts' hp
          by_cases e : j' = j
          · subst e
            rw [hp0] at hp; cases hp
            right
            exact ⟨k', k2, ⟨hpk, hktrue, hkfalse, hfin, hdisc⟩,
              Or.inr (by rw [List.getElem?_set_self (h.plen ▸ hjlt0)])⟩
          · rcases hts' with hts' | hts'
            · rcases h.shape j' p hts' hp with a | ⟨ka, kb, hs, a⟩
              · left; rw [List.getElem?_set_ne (Ne.symm e)]; exact a
              · right; refine ⟨ka, kb, hs, ?_⟩
                rw [List.getElem?_set_ne (Ne.symm e)]; exact a
            · exact (e hts').elim

end

section
variable (i : Str) (rejv : Except Exc Val) (post : List Lock → Except Exc Val → Prop)
  (progs0 : List (Prog (Except Exc Val))) (w0 : World)

theorem sinvT_schedule (fuel : Nat) (sched : List Nat) (cf : Conf) (n : Nat) (progs' : List (Prog (Except Exc Val)))
    (tested : Nat → Prop) (done : List Nat) (cur : Option Nat) (h : SInvT i rejv post progs0 w0 cf progs' tested done cur) :
    ∃ progs'' tested' done' cur', SInvT i rejv post progs0 w0 (runSchedule fuel cf sched n).1 progs'' tested' done' cur' := by
  induction sched generalizing cf n progs' tested done cur with
  | nil => exact ⟨progs', tested, done, cur, h⟩
  | cons j rest ih =>
    simp only [runSchedule]
    cases hj : cf.ts[j]? with
    | none => exact ⟨progs', tested, done, cur, h⟩
    | some t =>
      simp only
      by_cases hen : t.enabled cf.w = true
      · rw [if_pos hen]
        obtain ⟨p2, t2, d2, c2, h2⟩ := sinvT_step i rejv post progs0 w0 h fuel j t hj hen
        exact ih _ _ p2 t2 d2 c2 h2
      · rw [if_neg hen]; exact ⟨progs', tested, done, cur, h⟩

/-- has nothing to ask: returns at once (or is not a thread at all) -/
def quietAt (j : Nat) : Prop := ∀ p, progs0[j]? = some p → p.Quiet

theorem sinvT_initial (hb : ∀ p ∈ progs0, p.Tested i rejv post) (h0 : w0.cnt .objPid i = 0) :
    SInvT i rejv post progs0 w0 { w := w0, ts := progs0.map .fresh } progs0 (quietAt progs0) (done0 progs0) none := by
  refine ⟨?_, rfl, ?_, ?_⟩
  · apply sinv_initial .objPid i post progs0 w0 (quietAt progs0) _ h0
    intro j p hq hp hnq
    exact (hnq (hq p hp)).elim
  · intro j t p hnt ht hp
    have hts : t = TState.fresh p := by
      rw [List.getElem?_map, hp] at ht; cases ht; rfl
    subst hts
    have hnq : ¬ p.Quiet := by
      intro hq; apply hnt
      intro p' hp'; rw [hp] at hp'; cases hp'; exact hq
    refine ⟨rfl, hp, ?_, nofun, ?_⟩
    · intro hm
      simp only [done0, List.mem_filter, hp] at hm
      cases p with
      | ret v => exact hnq trivial
      | op e k => simp [isRet] at hm
    · rcases hb p (List.mem_of_getElem? hp) with hq | hs
      · exact (hnq hq).elim
      · exact hs
  · intro j p _ hp
    exact Or.inl hp

/-- **Serialisation up to refusal.** Threads that first ask whether `i` is being worked
    on (and return `rejv` at once if it is) and otherwise do all their work under the
    claim of `i`: under every schedule, when all have returned, there is an order of
    the threads and a program list `progs'` — each thread's own program if it returns
    without a primitive, the refusal `ret rejv` if it was turned away, its
    continuation after the answer "no" otherwise — such that the world is the one the
    sequential run of `progs'` in that order reaches, results included. -/
theorem tested_schedule (hb : ∀ p ∈ progs0, p.Tested i rejv post) (h0 : w0.cnt .objPid i = 0) (fuel : Nat)
    (sched : List Nat) :
    let fin := (runSchedule fuel { w := w0, ts := progs0.map .fresh } sched 0).1
    fin.allFinished = true →
    ∃ (progs' : List (Prog (Except Exc Val))) (order : List Nat),
      progs'.length = progs0.length ∧
      (∀ (j : Nat) (p : Prog (Except Exc Val)), progs0[j]? = some p →
        progs'[j]? = some p ∨ ∃ k k2, TestShape i rejv post p k k2 ∧
          (progs'[j]? = some (.ret rejv) ∨ progs'[j]? = some (k (.bool false)))) ∧
      order.Nodup ∧ (∀ j, j ∈ order ↔ j < progs0.length) ∧
      fin.w = (seqRun progs' order w0).1 ∧
      ∀ (j : Nat) (t : TState), fin.ts[j]? = some t → ∃ v, t = TState.finished v ∧ (j, v) ∈ (seqRun progs' order w0).2 := by
  intro fin hall
  obtain ⟨progs', tested, done, cur, h⟩ := sinvT_schedule i rejv post progs0 w0 fuel sched _ 0 _ _ _ _
    (sinvT_initial i rejv post progs0 w0 hb h0)
  have htested : ∀ j, j < progs'.length → tested j := by
    intro j hj
    apply Classical.byContradiction
    intro hnt
    have hj0 : j < progs0.length := h.plen ▸ hj
    have hjt : j < fin.ts.length := by rw [h.base.len]; exact hj
    have ht : fin.ts[j]? = some fin.ts[j] := List.getElem?_eq_getElem hjt
    obtain ⟨hprog, _, _, _, k, k2, hs, _⟩ := h.untested j _ _ hnt ht (List.getElem?_eq_getElem hj0)
    have := List.all_eq_true.mp hall _ (List.getElem_mem hjt)
    rw [hs] at hprog
    cases hc : fin.ts[j] with
    | finished v => rw [hc] at hprog; cases hprog
    | fresh p => rw [hc] at this; simp at this
    | «at» e k => rw [hc] at this; simp at this
  obtain ⟨h1, h2, h3, h4⟩ := sinv_final .objPid i post tested progs' w0 h.base hall htested
  refine ⟨progs', done, h.plen, ?_, h1, fun j => by rw [h2 j, h.plen], h3, h4⟩
  intro j p hp
  have hj : j < progs'.length := by
    rw [h.plen]
    rcases Nat.lt_or_ge j progs0.length with h1 | h1
    · exact h1
    · rw [List.getElem?_eq_none h1] at hp; cases hp
  exact h.shape j p (htested j hj) hp

end

/-! ### store_object asks first -/

section
variable (cfg : Config) (o : Oracle)

theorem notCls_of_notLock {c : LockClass} (e : Ev) (h : NotLock e) : NotCls c e := by
  cases e <;> first | trivial | exact h.elim

theorem storeRefs_notObjPid (pid cid : Str) : (storeRefs cfg o pid cid).AllEv (NotCls .objPid) := by
  unfold storeRefs
  repeat (first
    | exact Prog.allEv_mono _ notCls_of_notLock (verifyRefs_nl o _ _)
    | exact Prog.allEv_mono _ notCls_of_notLock (updateRefsAdd_nl _ _)
    | exact Prog.allEv_mono _ notCls_of_notLock writeRefsTmp_nl
    | exact Prog.allEv_mono _ notCls_of_notLock (untagObject_nl cfg o _ _)
    | notcls_step)

theorem tagObject_notObjPid (pid cid : SArg) : (tagObject cfg o pid cid).AllEv (NotCls .objPid) := by
  unfold tagObject
  repeat (first | exact storeRefs_notObjPid cfg o _ _ | notcls_step)

theorem storeObject_tested (pid : SArg) (data : DataArg) (add cks ca : SArg) (sz : IArg) (p : Str)
    (hp : checkString pid = .ok p) :
    Prog.Tested p (.error .storeObjectInProgress) Post0
      (storeObject cfg o pid data add cks ca sz : Prog (Except Exc Val)) := by
  have hneutral := storeObject_neutral cfg o pid data add cks ca sz
  unfold storeObject at hneutral ⊢
  cases pid with
  | none => simp [checkString] at hp
  | other => simp [checkString] at hp
  | str s =>
    simp only at hneutral ⊢
    rw [hp, PE.ofExcept_ok_bind] at hneutral ⊢
    cases h1 : checkArgData data with
    | error e => left; trivial
    | ok u1 =>
      rw [h1] at hneutral
      rw [PE.ofExcept_ok_bind] at hneutral ⊢
      cases h2 : checkInteger sz with
      | error e => left; trivial
      | ok u2 =>
        rw [h2] at hneutral
        rw [PE.ofExcept_ok_bind] at hneutral ⊢
        cases h3 : checkArgAlgorithmsAndChecksum cfg.alg add cks ca with
        | error e => left; trivial
        | ok ac =>
          rw [h3] at hneutral
          rw [PE.ofExcept_ok_bind] at hneutral ⊢
          right
          refine ⟨_, _, rfl, rfl, rfl, ?_, ?_⟩
          · apply Prog.finU_of_fin
            apply withFinally_fin
            apply Prog.allEv_mono _ (fun e => avoid_of_notCls p)
            repeat (first
              | exact Prog.allEv_mono _ notCls_of_notLock (moveAndGetChecksums_nl cfg o _ _ _ _ _ _)
              | exact tagObject_notObjPid cfg o _ _
              | notcls_step)
          · have := hneutral (.bool false)
            exact this.2

end

section
variable (cfg : Config) (o : Oracle)

/-- a `store_object` call with a pid argument whose pid, if accepted, is `p` -/
def StoresPid (p : Str) : Call → Prop
  | .storeObject pid _ _ _ _ _ => pid ≠ .none ∧ ∀ q, checkString pid = .ok q → q = p
  | _ => False

theorem storesPid_tested (p : Str) (call : Call) (h : StoresPid p call) :
    Prog.Tested p (.error .storeObjectInProgress) Post0 (call.prog cfg o : Prog (Except Exc Val)) := by
  cases call with
  | storeObject pid data add cks ca sz =>
    simp only [Call.prog]
    obtain ⟨hne, hq⟩ := h
    cases hp : checkString pid with
    | error e =>
      left
      unfold storeObject
      cases pid with
      | none => exact (hne rfl).elim
      | other => simp only; rw [hp]; trivial
      | str s => simp only; rw [hp]; trivial
    | ok q =>
      have := hq q hp
      subst this
      exact storeObject_tested cfg o pid data add cks ca sz q hp
  | _ => exact h.elim

/-- with the identifier free, a program of the family runs as its continuation after the answer "no" -/
theorem run_tested_free (i : Str) (rejv : Except Exc Val) (post : List Lock → Except Exc Val → Prop)
    (p : Prog (Except Exc Val)) (k k2 : Resp → Prog (Except Exc Val)) (hs : TestShape i rejv post p k k2)
    (w : World) (hfree : i ∉ w.lk.objPid) : p.run w = (k (.bool false)).run w := by
  rw [hs.1]
  show (k (respond w (.inProgress i)).1).run (respond w (.inProgress i)).2 = _
  rw [respond_inProgress]
  simp [hfree]

end
end HS
