/-
  FaultMeta — `store_metadata` under an arbitrary fault plan: error or whole
  effect, and on error every document is as before. Helper lemmas.
-/
import HSModel.Proofs.RunInv
import HSModel.Proofs.DiscRun
import HSModel.Calls
namespace HS

/-- what the world can answer to a file-system effect, whatever the fault plan:
    an error and the same store, or success and the effect applied -/
theorem respond_eff_cases (w : World) (x : Eff) :
    (∃ e w1, respond w (.eff x) = (.err e, w1) ∧ w1.st = w.st ∧ w1.lk = w.lk) ∨
    (∃ s' w2, w.st.apply x = some s' ∧ respond w (.eff x) = (.unit, w2) ∧ w2.st = s' ∧ w2.lk = w.lk) := by
  rcases respond_eff w x with ⟨e, h⟩ | ⟨s', ha, h⟩
  · exact .inl ⟨e, _, h, faultStep_st w _, faultStep_lk w _⟩
  · exact .inr ⟨s', _, ha, h, rfl, faultStep_lk w _⟩

theorem respond_acquire_free (w : World) (c : LockClass) (i : Str) (h : i ∉ w.lk.get c) :
    ∃ w1, respond w (.acquire c i) = (.unit, w1) ∧ w1.st = w.st ∧ w1.lk = w.lk.put c (w.lk.get c ++ [i]) := by
  rw [respond_acquire, if_neg h]; exact ⟨_, rfl, rfl, rfl⟩

theorem respond_release_held (w : World) (c : LockClass) (i : Str) (h : i ∈ w.lk.get c) :
    ∃ w1, respond w (.release c i) = (.unit, w1) ∧ w1.st = w.st ∧ w1.lk = w.lk.put c ((w.lk.get c).erase i) := by
  rw [respond_release, if_pos h]; exact ⟨_, rfl, rfl, rfl⟩

variable (cfg : Config) (o : Oracle)

theorem apply_mkTmp_mdocs {s s' : Store} {a : TmpArea} (h : s.apply (.mkTmp a) = some s') : s'.mdocs = s.mdocs := by
  cases Store.apply_eq_some h; rfl

theorem apply_mkdirs_mdocs {s s' : Store} {a : Area} {k : Str} (h : s.apply (.mkdirs a k) = some s') :
    s'.mdocs = s.mdocs := by
  cases Store.apply_eq_some h; rfl

theorem apply_removeTmp_mdocs {s s' : Store} {a : TmpArea} (h : s.apply (.removeTmp a) = some s') :
    s'.mdocs = s.mdocs := by
  cases Store.apply_eq_some h; rfl

theorem apply_publishDoc_mdocs {s s' : Store} {d n : Str} {t : Tok} (h : s.apply (.publishDoc d n t) = some s') :
    s'.mdocs = s.mdocs.set (d, n) t := by
  cases Store.apply_eq_some h; rfl

/-- `store_metadata` with accepted arguments, its document name free, under ANY
    fault plan: it returns the path and the document is the new one, or it
    returns an error and every document is as before -/
theorem smeta_error_or_effect (w : World) (p f : Str) (t : Tok) (fmt : SArg)
    (hp : checkStringOk p = true) (hf : checkArgFormatId cfg.ns fmt = .ok f)
    (hfree : o.hId (p ++ f) ∉ w.lk.doc) :
    (((storeMetadata cfg o (.str p) (.ok t) fmt).run w).1 = .ok (.path (.mdoc (o.hId p) (o.hId (p ++ f)))) ∧
        ((storeMetadata cfg o (.str p) (.ok t) fmt).run w).2.st.mdocs = w.st.mdocs.set (o.hId p, o.hId (p ++ f)) t) ∨
      (∃ e, ((storeMetadata cfg o (.str p) (.ok t) fmt).run w).1 = .error e ∧
        ((storeMetadata cfg o (.str p) (.ok t) fmt).run w).2.st.mdocs = w.st.mdocs) := by
  have hps : checkString (.str p) = .ok p := by simp [checkString, hp]
  obtain ⟨w1, h1, hs1, hl1⟩ := respond_acquire_free w .doc (o.hId (p ++ f)) hfree
  have hheld : ∀ w' : World, w'.lk = w1.lk → o.hId (p ++ f) ∈ w'.lk.get .doc := by
    intro w' e; rw [e, hl1]; simp [Locks.get, Locks.put]
  simp only [storeMetadata, withDocLock, PE.ofExcept, PE.withFinally, bind, PE.bind', PE.pure', PE.throw', PE.tryCatch',
    Prog.bind, acquire, release, unitPrim, PE.prim, eff, tryCatch, pure, throw, hps, hf, checkArgData, openStream,
    Prog.run, h1]
  rcases respond_eff_cases w1 (.mkTmp .mdata) with ⟨e2, w2, h2, hs2, hl2⟩ | ⟨s2, w2, ha2, h2, hs2, hl2⟩
  · -- temp file creation failed
    obtain ⟨w3, h3, hs3, _⟩ := respond_release_held w2 .doc (o.hId (p ++ f)) (hheld w2 hl2)
    simp only [h2, Prog.bind, Prog.run, h3]
    exact Or.inr ⟨e2, rfl, by rw [hs3, hs2, hs1]⟩
  · have hm2 : w2.st.mdocs = w.st.mdocs := by rw [hs2, apply_mkTmp_mdocs ha2, hs1]
    simp only [h2, Prog.bind, Prog.run]
    rcases respond_eff_cases w2 (.mkdirs .mdata (o.hId p)) with ⟨e3, w3, h3, hs3, hl3⟩ | ⟨s3, w3, ha3, h3, hs3, hl3⟩
    · -- mkdir failed: temp file removed (or not), error
      simp only [h3, Prog.bind, Prog.run]
      rcases respond_eff_cases w3 (.removeTmp .mdata) with ⟨e4, w4, h4, hs4, hl4⟩ | ⟨s4, w4, ha4, h4, hs4, hl4⟩
      · obtain ⟨w5, h5, hs5, _⟩ := respond_release_held w4 .doc (o.hId (p ++ f)) (hheld w4 (by rw [hl4, hl3, hl2]))
        simp only [h4, Prog.bind, Prog.run, h5]
        exact Or.inr ⟨_, rfl, by rw [hs5, hs4, hs3, hm2]⟩
      · obtain ⟨w5, h5, hs5, _⟩ := respond_release_held w4 .doc (o.hId (p ++ f)) (hheld w4 (by rw [hl4, hl3, hl2]))
        simp only [h4, Prog.bind, Prog.run, h5]
        exact Or.inr ⟨_, rfl, by rw [hs5, hs4, apply_removeTmp_mdocs ha4, hs3, hm2]⟩
    · have hm3 : w3.st.mdocs = w.st.mdocs := by rw [hs3, apply_mkdirs_mdocs ha3, hm2]
      simp only [h3, Prog.bind, Prog.run]
      rcases respond_eff_cases w3 (.publishDoc (o.hId p) (o.hId (p ++ f)) t) with
        ⟨e4, w4, h4, hs4, hl4⟩ | ⟨s4, w4, ha4, h4, hs4, hl4⟩
      · -- the move failed: temp file removed (or not), error, documents as before
        simp only [h4, Prog.bind, Prog.run]
        rcases respond_eff_cases w4 (.removeTmp .mdata) with ⟨e5, w5, h5, hs5, hl5⟩ | ⟨s5, w5, ha5, h5, hs5, hl5⟩
        · obtain ⟨w6, h6, hs6, _⟩ := respond_release_held w5 .doc (o.hId (p ++ f))
            (hheld w5 (by rw [hl5, hl4, hl3, hl2]))
          simp only [h5, Prog.bind, Prog.run, h6]
          exact Or.inr ⟨_, rfl, by rw [hs6, hs5, hs4, hm3]⟩
        · obtain ⟨w6, h6, hs6, _⟩ := respond_release_held w5 .doc (o.hId (p ++ f))
            (hheld w5 (by rw [hl5, hl4, hl3, hl2]))
          simp only [h5, Prog.bind, Prog.run, h6]
          exact Or.inr ⟨_, rfl, by rw [hs6, hs5, apply_removeTmp_mdocs ha5, hs4, hm3]⟩
      · -- the move happened: the call returns the path
        obtain ⟨w5, h5, hs5, _⟩ := respond_release_held w4 .doc (o.hId (p ++ f)) (hheld w4 (by rw [hl4, hl3, hl2]))
        simp only [h4, Prog.bind, Prog.run, h5]
        exact Or.inl ⟨trivial, by rw [hs5, hs4, apply_publishDoc_mdocs ha4, hm3]⟩

end HS
