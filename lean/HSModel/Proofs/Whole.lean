/-
  Whole — which values a call can ever write into a pid reference or a metadata
  document (for every sequence of answers), and the store invariant that carries.
  Helper lemmas for C09; the property statements are in Props/C09.lean.
-/
import HSModel.Proofs.Shape
import HSModel.Proofs.RunInv
import HSModel.Proofs.AbsLemmas
namespace HS.C09
variable (cfg : Config) (o : Oracle)

/-! ### pid references and documents hold whole supplied values -/

/-- the only values a program writes into a pid reference are in `vs`, into a
    document in `ts` (whatever the answers are) -/
def Supplies (vs : List Str) (ts : List Tok) : Ev → Prop
  | .eff (.publishPidRef _ v) => v ∈ vs
  | .eff (.publishDoc _ _ t) => t ∈ ts
  | _ => True

/-- neither a pid reference nor a document is written -/
def NoPidDoc : Ev → Prop
  | .eff (.publishPidRef _ _) => False
  | .eff (.publishDoc _ _ _) => False
  | _ => True

theorem supplies_of_noPidDoc (vs : List Str) (ts : List Tok) (e : Ev) (h : NoPidDoc e) : Supplies vs ts e := by
  cases e with
  | eff x => cases x <;> first | trivial | exact h.elim
  | _ => trivial

/-- every pid reference holds a value from `vs`, every document one from `ts` -/
def ValuesFrom (vs : List Str) (ts : List Tok) (s : Store) : Prop :=
  (∀ k v, s.pidRefs.get k = some v → v ∈ vs) ∧ (∀ d n t, s.mdocs.get (d, n) = some t → t ∈ ts)

theorem values_step {vs : List Str} {ts : List Tok} {s : Store} {x : Eff} (hx : Supplies vs ts (.eff x))
    (hs : ValuesFrom vs ts s) : ValuesFrom vs ts (s.after x) := by
  refine ⟨fun k v hg => ?_, fun d n t hg => ?_⟩
  · dsimp only [Store.after] at hg
    split at hg
    · rcases FMap.get_set_some hg with ⟨_, rfl⟩ | h
      · exact hx
      · exact hs.1 k v h
    · rcases FMap.get_rename_some hg with ⟨_, h⟩ | h <;> exact hs.1 _ v h
    · exact hs.1 k v (FMap.get_del_some hg)
    · exact hs.1 k v hg
  · dsimp only [Store.after] at hg
    split at hg
    · rcases FMap.get_set_some hg with ⟨_, rfl⟩ | h
      · exact hx
      · exact hs.2 d n t h
    · rcases FMap.get_rename_some hg with ⟨_, h⟩ | h <;> exact hs.2 _ _ t h
    · exact hs.2 d n t (FMap.get_del_some hg)
    · exact hs.2 d n t hg


/-! which calls write which values -/

theorem findObject_npd (pid : Str) : (findObject cfg o pid).AllEv NoPidDoc := by
  unfold findObject; repeat allev_step
theorem verifyRefs_npd (pid cid : Str) : (verifyRefs o pid cid).AllEv NoPidDoc := by
  unfold verifyRefs; repeat allev_step
theorem updateRefsAdd_npd (cid pid : Str) : (updateRefsAdd cid pid).AllEv NoPidDoc := by
  unfold updateRefsAdd; repeat allev_step
theorem updateRefsRemove_npd (cid pid : Str) : (updateRefsRemove cid pid).AllEv NoPidDoc := by
  unfold updateRefsRemove; repeat allev_step
theorem writeRefsTmp_npd : writeRefsTmp.AllEv NoPidDoc := by
  unfold writeRefsTmp; repeat allev_step
theorem deleteMarked_npd (l : List Loc) : (deleteMarked l).AllEv NoPidDoc := by
  induction l with
  | nil => exact PE.allEv_pure _
  | cons a r ih => unfold deleteMarked; repeat (first | exact ih | allev_step)
theorem markPidRef_npd (k : Str) : (markPidRef k).AllEv NoPidDoc := by
  unfold markPidRef; repeat allev_step
theorem removePidAndHandle_npd (pid cid : Str) : (removePidAndHandle pid cid).AllEv NoPidDoc := by
  unfold removePidAndHandle; repeat (first | exact updateRefsRemove_npd _ _ | allev_step)
theorem validateAndCheckCidLock_npd (a b : Str) : (validateAndCheckCidLock a b).AllEv NoPidDoc := by
  unfold validateAndCheckCidLock; repeat allev_step
theorem untagObject_npd (pid cid : Str) : (untagObject cfg o pid cid).AllEv NoPidDoc := by
  unfold untagObject
  repeat (first
    | exact findObject_npd cfg o _
    | exact validateAndCheckCidLock_npd _ _
    | exact markPidRef_npd _
    | exact removePidAndHandle_npd _ _
    | exact deleteMarked_npd _
    | allev_step)
theorem hexDigestCore_npd (pid alg : Str) : (hexDigestCore cfg o pid alg).AllEv NoPidDoc := by
  unfold hexDigestCore; repeat (first | exact findObject_npd cfg o _ | allev_step)

/-- `_store_hashstore_refs_files`: the one pid reference it writes holds the cid it was given -/
theorem storeRefs_supplies (vs : List Str) (ts : List Tok) (pid cid : Str) (h : cid ∈ vs) :
    (storeRefs cfg o pid cid).AllEv (Supplies vs ts) := by
  unfold storeRefs
  repeat (first
    | exact Prog.allEv_mono _ (supplies_of_noPidDoc vs ts) (verifyRefs_npd o _ _)
    | exact Prog.allEv_mono _ (supplies_of_noPidDoc vs ts) (updateRefsAdd_npd _ _)
    | exact Prog.allEv_mono _ (supplies_of_noPidDoc vs ts) writeRefsTmp_npd
    | exact Prog.allEv_mono _ (supplies_of_noPidDoc vs ts) (untagObject_npd cfg o _ _)
    | exact h
    | allev_step)

theorem tagObject_supplies (vs : List Str) (ts : List Tok) (pid : SArg) (c : Str) (h : c ∈ vs) :
    (tagObject cfg o pid (.str c)).AllEv (Supplies vs ts) := by
  unfold tagObject
  apply PE.allEv_bind; · exact PE.allEv_ofExcept _
  intro p
  apply PE.allEv_bind_post _ _ (PE.allEvR_ofExcept _)
  intro c' hc'
  have := checkString_str' hc'
  subst this
  repeat (first | exact storeRefs_supplies cfg o vs ts _ _ h | allev_step)


theorem moveAndGetChecksums_npd (pid : Option Str) (t : Tok) (add cs cks : Option Str) (sz : IArg) :
    (moveAndGetChecksums cfg o pid t add cs cks sz).AllEv NoPidDoc := by
  unfold moveAndGetChecksums
  repeat (first | exact hexDigestCore_npd cfg o _ _ | allev_step)

/-- … and what it returns is addressed by the digest of the content -/
theorem moveAndGetChecksums_cid (vs : List Str) (ts : List Tok) (pid : Option Str) (t : Tok) (add cs cks : Option Str)
    (sz : IArg) :
    (moveAndGetChecksums cfg o pid t add cs cks sz).AllEvR (Supplies vs ts) (fun m => m.cid = o.dig cfg.alg t) := by
  unfold moveAndGetChecksums
  dsimp only
  repeat (first
    | exact PE.allEvR_pure _ rfl
    | exact PE.allEvR_throw _
    | (apply PE.allEvR_of_allEv
       apply Prog.allEv_mono _ (supplies_of_noPidDoc vs ts)
       repeat (first | exact hexDigestCore_npd cfg o _ _ | allev_step))
    | apply PE.allEvR_bind (Q := fun _ => True)
    | apply PE.allEvR_tryCatch
    | intro _
    | split
    | dsimp only)


theorem retrieveObject_npd (pid : SArg) : (retrieveObject cfg o pid).AllEv NoPidDoc := by
  unfold retrieveObject; repeat (first | exact findObject_npd cfg o _ | allev_step)
theorem retrieveMetadata_npd (pid f : SArg) : (retrieveMetadata cfg o pid f).AllEv NoPidDoc := by
  unfold retrieveMetadata; repeat allev_step
theorem getHexDigest_npd (pid a : SArg) : (getHexDigest cfg o pid a).AllEv NoPidDoc := by
  unfold getHexDigest; repeat (first | exact hexDigestCore_npd cfg o _ _ | allev_step)
theorem deleteObjectOnly_npd (cid : Str) : (deleteObjectOnly cid).AllEv NoPidDoc := by
  unfold deleteObjectOnly; repeat allev_step
theorem deleteIfInvalid_npd (om : Option ObjMeta) (c ca : SArg) (s : IArg) :
    (deleteIfInvalidObject cfg o om c ca s).AllEv NoPidDoc := by
  unfold deleteIfInvalidObject; repeat (first | exact deleteObjectOnly_npd _ | allev_step)
theorem withDocLock_npd {α : Type} (doc : Str) (body : PE α) (h : body.AllEv NoPidDoc) :
    (withDocLock doc body).AllEv NoPidDoc := by
  unfold withDocLock; repeat (first | exact h | allev_step)
theorem retireDocs_npd (dir : Str) (names : List Str) : (retireDocs dir names).AllEv NoPidDoc := by
  induction names with
  | nil => exact PE.allEv_pure _
  | cons n r ih => unfold retireDocs; repeat (first | exact ih | apply withDocLock_npd | allev_step)
theorem deleteMetadataCore_npd (p : Str) (fmt : Option Str) : (deleteMetadataCore o p fmt).AllEv NoPidDoc := by
  unfold deleteMetadataCore
  cases fmt with
  | none => simp only; repeat (first | exact retireDocs_npd _ _ | exact deleteMarked_npd _ | allev_step)
  | some f => simp only; repeat (first | apply withDocLock_npd | allev_step)
theorem deleteMetadata_npd (p f : SArg) : (deleteMetadata cfg o p f).AllEv NoPidDoc := by
  unfold deleteMetadata; repeat (first | exact deleteMetadataCore_npd o _ _ | allev_step)
theorem deleteObject_npd (pid : SArg) : (deleteObject cfg o pid).AllEv NoPidDoc := by
  unfold deleteObject
  repeat (first
    | exact findObject_npd cfg o _
    | exact updateRefsRemove_npd _ _
    | exact deleteMarked_npd _
    | exact deleteMetadataCore_npd o _ _
    | allev_step)

/-- the cid a call may bind a pid to, the document it may store -/
def cidsSupplied : Call → List Str
  | .storeObject _ (.ok t) _ _ _ _ => [o.dig cfg.alg t]
  | .tagObject _ (.str c) => [c]
  | _ => []
def docsSupplied : Call → List Tok
  | .storeMetadata _ (.ok t) _ => [t]
  | _ => []

theorem openStream_ok {d : DataArg} {t : Tok} (h : openStream d = .ok t) : d = .ok t := by
  cases d <;> simp [openStream] at h
  subst h; rfl

/-- every call, whatever the file system answers: a pid reference is only ever
    given the call's own cid (the digest of the data for `store_object`, the
    argument for `tag_object`), a document only the data of `store_metadata` -/
theorem call_supplies (vs : List Str) (ts : List Tok) (c : Call) :
    (c.prog cfg o).AllEv (Supplies (vs ++ cidsSupplied cfg o c) (ts ++ docsSupplied c)) := by
  cases c with
  | storeObject pid data add cks ca sz =>
    simp only [Call.prog]
    unfold storeObject
    cases pid with
    | none =>
      simp only
      apply Prog.allEv_mono _ (supplies_of_noPidDoc _ _)
      repeat (first | exact moveAndGetChecksums_npd cfg o _ _ _ _ _ _ | allev_step)
    | other =>
      simp only
      apply PE.allEv_bind_post _ _ (PE.allEvR_ofExcept _)
      intro p hp; simp [checkString] at hp
    | str p0 =>
      simp only
      apply PE.allEv_bind; · exact PE.allEv_ofExcept _
      intro p
      apply PE.allEv_bind; · exact PE.allEv_ofExcept _
      intro _
      apply PE.allEv_bind; · exact PE.allEv_ofExcept _
      intro _
      apply PE.allEv_bind; · exact PE.allEv_ofExcept _
      intro ac
      apply PE.allEv_bind; · (apply allEv_inProgress; trivial)
      intro b
      split
      · exact PE.allEv_throw _
      · apply PE.allEv_withFinally
        · apply PE.allEv_bind; · (apply allEv_acquire; trivial)
          intro _
          apply PE.allEv_bind_post _ _ (PE.allEvR_ofExcept _)
          intro t ht
          have hd := openStream_ok ht
          subst hd
          apply PE.allEv_bind_post _ _ (moveAndGetChecksums_cid cfg o _ _ _ _ _ _ _ _)
          intro m hm
          apply PE.allEv_bind
          · apply tagObject_supplies
            rw [hm]; simp [cidsSupplied]
          · intro _; exact PE.allEv_pure _
        · apply allEv_release; trivial
  | tagObject pid cid =>
    simp only [Call.prog]
    cases cid with
    | str c => exact tagObject_supplies cfg o _ _ _ c (by simp [cidsSupplied])
    | none =>
      unfold tagObject
      apply PE.allEv_bind; · exact PE.allEv_ofExcept _
      intro p
      apply PE.allEv_bind_post _ _ (PE.allEvR_ofExcept _)
      intro c hc; simp [checkString] at hc
    | other =>
      unfold tagObject
      apply PE.allEv_bind; · exact PE.allEv_ofExcept _
      intro p
      apply PE.allEv_bind_post _ _ (PE.allEvR_ofExcept _)
      intro c hc; simp [checkString] at hc
  | storeMetadata pid data fmt =>
    simp only [Call.prog]
    unfold storeMetadata
    apply PE.allEv_bind; · exact PE.allEv_ofExcept _
    intro p
    apply PE.allEv_bind; · exact PE.allEv_ofExcept _
    intro _
    apply PE.allEv_bind; · exact PE.allEv_ofExcept _
    intro f
    unfold withDocLock
    apply PE.allEv_bind; · (apply allEv_acquire; trivial)
    intro _
    apply PE.allEv_withFinally
    · apply PE.allEv_bind_post _ _ (PE.allEvR_ofExcept _)
      intro t ht
      have hd := openStream_ok ht
      subst hd
      repeat (first
        | (apply allEv_eff; show t ∈ _; simp [docsSupplied])
        | allev_step)
    · apply allEv_release; trivial
  | deleteIfInvalid om ck ca sz =>
    exact Prog.allEv_mono _ (supplies_of_noPidDoc _ _) (deleteIfInvalid_npd cfg o om ck ca sz)
  | retrieveObject pid => exact Prog.allEv_mono _ (supplies_of_noPidDoc _ _) (retrieveObject_npd cfg o pid)
  | retrieveMetadata pid f => exact Prog.allEv_mono _ (supplies_of_noPidDoc _ _) (retrieveMetadata_npd cfg o pid f)
  | deleteObject pid => exact Prog.allEv_mono _ (supplies_of_noPidDoc _ _) (deleteObject_npd cfg o pid)
  | deleteMetadata pid f => exact Prog.allEv_mono _ (supplies_of_noPidDoc _ _) (deleteMetadata_npd cfg o pid f)
  | getHexDigest pid a => exact Prog.allEv_mono _ (supplies_of_noPidDoc _ _) (getHexDigest_npd cfg o pid a)


theorem values_preserved (vs : List Str) (ts : List Tok) :
    Prog.Preserved (Supplies vs ts) (fun w => ValuesFrom vs ts w.st) :=
  preserved_of_store fun _ _ => values_step

theorem valuesFrom_mono {vs vs' : List Str} {ts ts' : List Tok} {s : Store} (h : ValuesFrom vs ts s)
    (hv : ∀ v ∈ vs, v ∈ vs') (ht : ∀ t ∈ ts, t ∈ ts') : ValuesFrom vs' ts' s :=
  ⟨fun k v hg => hv v (h.1 k v hg), fun d n t hg => ht t (h.2 d n t hg)⟩

end HS.C09
