/-
  ClosedDelete — closed forms of `delete_object` on explicit worlds (free locks,
  no fault plan). Helper lemmas.
-/
import HSModel.Proofs.MetaRun
import HSModel.Proofs.MetaDocs
namespace HS
variable (cfg : Config) (o : Oracle)

theorem renderLines_eq_nil (ls : List Str) : renderLines ls = [] ↔ ls = [] := by
  cases ls with
  | nil => simp [renderLines]
  | cons a r => simp [renderLines]

theorem delete_unknown (st : Store) (log : List Eff) (p : Str) (hp : checkStringOk p = true)
    (h1 : st.pidRefs.get (o.hId p) = none) :
    (deleteObject cfg o (.str p)).run (calm st log) = (.error .pidRefsDoesNotExist, calm st log) := by
  simp [calm, calmL, deleteObject, runeq, Store.find, checkString_of_ok hp, h1]

local macro "delete_simp" hp:ident h1:ident h2:ident hin:ident hls:ident p:ident ls:ident extra:term "," extra2:term : tactic =>
  `(tactic| simp [calm, calmL, deleteObject, findObject, runsimp, checkString_of_ok $hp, $h1:ident, $h2:ident, $hin:ident,
    updateRefsRemove, removeLines_render $p $ls $hls, overwrite_truncate, deleteMarked, renderLines_eq_nil,
    Prog.run_bind_pe, Prog.run_bind, Loc.marker, dmc_run_eq, dmc_lk, dmc_fault, dmc_pid, dmc_cid, dmc_obj, dmc_tr,
    dmc_to, $extra:term, $extra2:term])

local macro "delete_simp_docs" hp:ident h1:ident h2:ident hin:ident hls:ident p:ident ls:ident extra:term "," extra2:term "," hpl:ident : tactic =>
  `(tactic| simp [calm, calmL, deleteObject, findObject, runsimp, checkString_of_ok $hp, $h1:ident, $h2:ident, $hin:ident,
    updateRefsRemove, removeLines_render $p $ls $hls, overwrite_truncate, deleteMarked, renderLines_eq_nil,
    Prog.run_bind_pe, Prog.run_bind, Loc.marker, dmc_run_eq, dmc_lk, dmc_fault, dmc_pid, dmc_cid, dmc_obj, dmc_tr, dmc_to, dmc_all_get, dmc_all_dirs, dmc_all_tmp,
    $hpl:ident, $extra:term, $extra2:term])

/-- what `delete_object(p)` leaves of the documents -/
structure DocsDropped (p : Str) (st st' : Store) : Prop where
  get : ∀ d m, st'.mdocs.get (d, m) = if d = o.hId p then none else st.mdocs.get (d, m)
  dirs : st'.dirs = st.dirs
  tmp : st'.tmpMeta = st.tmpMeta

/-- `delete_metadata` from a world given by its fields: only store and log move -/
theorem run_dmc (p : Str) (fmt : Option Str) (st : Store) (lk : Locks) (log : List Eff) (hdoc : lk.doc = []) :
    Prog.run (deleteMetadataCore o p fmt) ⟨st, lk, none, log⟩ =
      (.ok (), ⟨(dmcWorld o p fmt ⟨st, lk, none, log⟩).st, lk, none, (dmcWorld o p fmt ⟨st, lk, none, log⟩).log⟩) := by
  rw [dmc_run_eq o p fmt _ rfl hdoc]
  have h1 := dmc_lk o p fmt ⟨st, lk, none, log⟩ rfl hdoc
  have h2 := dmc_fault o p fmt ⟨st, lk, none, log⟩ rfl hdoc
  generalize dmcWorld o p fmt ⟨st, lk, none, log⟩ = w at h1 h2
  cases w; cases h1; cases h2; rfl

/-- what the delete-all of `delete_metadata`, run from a store with the documents of `st`, leaves of them -/
theorem docsDropped_of_dmc {p : Str} {st st1 st2 : Store} {lk : Locks} {log : List Eff}
    (hm2 : st2.mdocs = (dmcWorld o p none ⟨st1, lk, none, log⟩).st.mdocs)
    (hd2 : st2.dirs = (dmcWorld o p none ⟨st1, lk, none, log⟩).st.dirs)
    (ht2 : st2.tmpMeta = (dmcWorld o p none ⟨st1, lk, none, log⟩).st.tmpMeta)
    (hm : st1.mdocs = st.mdocs) (hd : st1.dirs = st.dirs) (ht : st1.tmpMeta = st.tmpMeta)
    (hdoc : lk.doc = []) (hpl : DocsPlainM st.mdocs st.dirs) : DocsDropped o p st st2 := by
  obtain ⟨hf, hg⟩ := dmc_all o p ⟨st1, lk, none, log⟩ rfl hdoc (by
    intro d n t h
    have h' : st1.mdocs.get (d, n) = some t := h
    rw [hm] at h'
    show _ ∧ _ ∈ st1.dirs
    rw [hd]; exact hpl d n t h')
  exact ⟨by intro d m; rw [hm2, hg, hm], by rw [hd2, hf.dirs, hd], by rw [ht2, hf.tmp, ht]⟩

/-- `delete_object(p)` for a bound, listed pid, all four paths (object there or not, last pid of the
    list or not) at once: the run is executed once per path and every field is read off the result -/
theorem delete_run (st : Store) (log : List Eff) (p c : Str) (ls : List Str)
    (hp : checkStringOk p = true)
    (h1 : st.pidRefs.get (o.hId p) = some c) (h2 : st.cidRefs.get c = some (renderLines ls))
    (hls : ∀ l ∈ ls, hasSpace l = false) (hin : p ∈ ls) :
    ∃ w', (deleteObject cfg o (.str p)).run (calm st log) = (.ok .unit, w') ∧
      w'.lk = {} ∧ w'.fault = none ∧ w'.st.tmpRefs = st.tmpRefs ∧ w'.st.tmpObj = st.tmpObj ∧
      w'.st.pidRefs = ((st.pidRefs.del (o.hId p)).set (o.hId p ++ deleteSuffix) c).del (o.hId p ++ deleteSuffix) ∧
      (w'.st.cidRefs =
        if ls.filter (fun l => !decide (l = p)) = [] then
          (((((st.cidRefs.set c (overwritePrefix [] (renderLines ls))).set c []).del c).set
            (c ++ deleteSuffix) [])).del (c ++ deleteSuffix)
        else (st.cidRefs.set c (overwritePrefix (renderLines (ls.filter fun l => !decide (l = p)))
          (renderLines ls))).set c (renderLines (ls.filter fun l => !decide (l = p)))) ∧
      (w'.st.objs =
        match st.objs.get c with
        | some x => if ls.filter (fun l => !decide (l = p)) = [] then
            ((st.objs.del c).set (c ++ deleteSuffix) x).del (c ++ deleteSuffix) else st.objs
        | none => st.objs) ∧
      (DocsPlainM st.mdocs st.dirs → DocsDropped o p st w'.st) := by
  have hin' : inRefs p (renderLines ls) = true := by
    rw [inRefs_render p ls hls]; simpa using hin
  by_cases hrest : ls.filter (fun l => !decide (l = p)) = [] <;> cases hobj : st.objs.get c <;>
    simp [calm, calmL, deleteObject, runeq, Store.find, checkString_of_ok hp, h1, h2, hin', hobj,
      run_updateRefsRemove, removeLines_render p ls hls, deleteMarked, renderLines_eq_nil, hrest,
      Loc.marker, run_dmc, dmc_pid, dmc_cid, dmc_obj, dmc_tr, dmc_to,
      show renderLines [] = [] from rfl] <;>
    exact docsDropped_of_dmc o rfl rfl rfl rfl rfl rfl rfl

end HS
