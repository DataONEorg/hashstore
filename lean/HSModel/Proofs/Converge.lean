/-
  Converge — helper lemmas for C19 (the two ways of storing): inversion of the
  argument checks of store_object, the digest the post-hoc validation compares
  with, and the invariant "every object sits at the digest of its content" over
  histories of the specification. Property statements are in Props/C19.lean.
-/
import HSModel.Proofs.StepShape
import HSModel.Proofs.RefineAll
namespace HS.C19
open Abs
variable (cfg : Config) (o : Oracle)

theorem lookupDigest_map (l : List Str) (f : Str → Str) (x : Str) :
    lookupDigest (l.map fun a => (a, f a)) x = if x ∈ l then some (f x) else none := by
  unfold lookupDigest
  induction l with
  | nil => simp
  | cons a r ih =>
    simp only [List.map_cons, List.find?_cons]
    by_cases h : a = x
    · subst h; simp
    · simp only [h, decide_false, List.mem_cons]
      rw [ih]
      have : ¬ x = a := fun e => h e.symm
      simp [this]

/-- what is stored at the address of `t`, if anything, is `t` (follows from
    objects being stored under their digest and the digest being collision-free) -/
def AddressHolds (a : Abs) (t : Tok) : Prop := ∀ t', a.objs.get (o.dig cfg.alg t) = some t' → t' = t

theorem refine_none : refineAlgorithmList defaultAlgos none none = defaultAlgos := rfl

theorem addObj_get_own (a : Abs) (t : Tok) (h : AddressHolds cfg o a t) :
    (a.addObj (o.dig cfg.alg t) t).objs.get (o.dig cfg.alg t) = some t := by
  rcases addObj_get_self a (o.dig cfg.alg t) t with h1 | ⟨t', h1, h2⟩
  · exact h1
  · rw [h2, h t' h1]

theorem divDigest_true (a : Abs) (t : Tok) (a' : Str) (halg : cfg.alg ∈ defaultAlgos)
    (h : AddressHolds cfg o a t) :
    divDigest cfg o (a.addObj (o.dig cfg.alg t) t) (objMetaOf cfg o t none none) a' = .ok (o.dig a' t) := by
  unfold divDigest
  simp only [objMetaOf, refine_none, lookupDigest_map, halg, if_true]
  split
  · rename_i d hd
    split at hd
    · cases hd; rfl
    · cases hd
  · simp [addObj_get_own cfg o a t h]

theorem checkString_inv {x p : Str} (h : checkString (.str x) = .ok p) : checkStringOk x = true := by
  simp only [checkString] at h; split at h
  · assumption
  · cases h

theorem algs_inv {alg : Str} {additional : SArg} {c al : Str} {ac : Option Str × Option Str}
    (h : checkArgAlgorithmsAndChecksum alg additional (.str c) (.str al) = .ok ac) :
    checkStringOk c = true ∧ checkStringOk al = true ∧ ∃ a', cleanAlgorithm al = .ok a' ∧ ac.2 = some a' := by
  have key : ∀ (x : Except Exc (Option Str)),
      (do let add' ← x
          let _ ← checkString (SArg.str al)
          let _ ← checkString (SArg.str c)
          let cs' ← Except.map some (cleanAlgorithm al)
          pure (add', cs') : Except Exc (Option Str × Option Str)) = .ok ac →
      checkStringOk c = true ∧ checkStringOk al = true ∧ ∃ a', cleanAlgorithm al = .ok a' ∧ ac.2 = some a' := by
    intro x hx
    simp only [bind_eq_ok, pure_eq_ok] at hx
    obtain ⟨_, _, _, h1, _, h2, cs', h3, h4⟩ := hx
    subst h4
    refine ⟨checkString_inv h2, checkString_inv h1, ?_⟩
    cases hcl : cleanAlgorithm al with
    | error e => rw [hcl] at h3; cases h3
    | ok a' => rw [hcl] at h3; cases h3; exact ⟨a', rfl, rfl⟩
  unfold checkArgAlgorithmsAndChecksum at h
  cases additional with
  | none => exact key _ h
  | other => exact key _ h
  | str a =>
    simp only at h
    split at h
    · exact key _ h
    · exact key _ h

theorem storeArgs_inv {p0 p : Str} {t t0 : Tok} {additional : SArg} {add' cs' : Option Str} {c al : Str} {sz : IArg}
    (h : storeArgs cfg (.str p0) (.ok t0) additional (.str c) (.str al) sz = .ok (p, add', cs', t)) :
    p = p0 ∧ t = t0 ∧ checkStringOk p0 = true ∧ checkStringOk c = true ∧ checkStringOk al = true ∧
      checkInteger sz = .ok () ∧ ∃ a', cleanAlgorithm al = .ok a' ∧ cs' = some a' := by
  unfold storeArgs at h
  simp only [bind_eq_ok, pure_eq_ok] at h
  obtain ⟨p1, hp, _, _, _, hi, ac, hac, t1, ht, he⟩ := h
  have hp0 : checkStringOk p0 = true := by
    simp only [checkString] at hp; split at hp
    · assumption
    · cases hp
  have hp1 : p1 = p0 := checkString_str hp
  cases he
  simp only [openStream] at ht; cases ht
  obtain ⟨hc', hal', a', hcl, hcs⟩ := algs_inv hac
  exact ⟨hp1, rfl, hp0, hc', hal', hi, a', hcl, hcs⟩

/-- every object sits at the digest of its content -/
def Addressed (a : Abs) : Prop := ∀ c t, a.objs.get c = some t → c = o.dig cfg.alg t

theorem addressed_sub {a b : Abs} (h : Addressed cfg o a) (hsub : ∀ c t, b.objs.get c = some t → a.objs.get c = some t) :
    Addressed cfg o b := fun c t hb => h c t (hsub c t hb)

theorem addressed_addObj {a : Abs} (h : Addressed cfg o a) (t : Tok) :
    Addressed cfg o (a.addObj (o.dig cfg.alg t) t) := by
  intro c t' hg
  unfold addObj at hg
  split at hg
  · exact h c t' hg
  · simp only at hg
    by_cases e : o.dig cfg.alg t = c
    · subst e; rw [FMap.get_set_self] at hg; cases hg; rfl
    · rw [FMap.get_set_ne _ _ e] at hg; exact h c t' hg

theorem addressed_step {a : Abs} (h : Addressed cfg o a) (call : Call) : Addressed cfg o (step cfg o a call).2 := by
  intro c t hg
  rcases step_objs cfg o a call with e | ⟨_, t0, _, _, _, _, _, e⟩ | ⟨c', _, e⟩
  · exact h c t (e ▸ hg)
  · exact addressed_addObj cfg o h t0 c t (e ▸ hg)
  · rw [e] at hg; exact h c t (FMap.get_del_some hg)

theorem addressed_history (cs : List Call) {a : Abs} (h : Addressed cfg o a) :
    Addressed cfg o (specHist cfg o cs a).2 := by
  induction cs generalizing a with
  | nil => exact h
  | cons c r ih => exact ih (addressed_step cfg o h c)

theorem addressed_empty : Addressed cfg o Abs.empty := by
  intro c t h; simp [Abs.empty] at h

end HS.C19
