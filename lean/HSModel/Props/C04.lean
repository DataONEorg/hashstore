/-
  C04 — No call ever removes an object that some pid still references.
  On the abstract specification: for every call other than `delete_object(q)`
  itself, a binding q ↦ c with its object present survives the call, bytes
  included. Lifted to histories by induction.
-/
import HSModel.Proofs.StepShape
import HSModel.Proofs.RefineAll
import HSModel.Proofs.MetaOnly
namespace HS.C04
open Abs
variable (cfg : Config) (o : Oracle)

/-- `q ↦ c` and the object `c` holds `t` -/
def Holds (a : Abs) (q c : Str) (t : Tok) : Prop := a.bind.get q = some c ∧ a.objs.get c = some t

/-- the one call allowed to end q's binding -/
def IsDeleteOf (q : Str) : Call → Prop
  | .deleteObject (.str p) => p = q
  | _ => False

/-- one step: every call except `delete_object(q)` keeps q's object and binding -/
theorem referenced_object_kept (a : Abs) (call : Call) (q c : Str) (t : Tok)
    (hcall : ¬ IsDeleteOf q call) (h : Holds a q c t) : Holds (step cfg o a call).2 q c t := by
  have hb : (step cfg o a call).2.bind.get q = some c := by
    rcases step_bind cfg o a call with e | ⟨p, c', _, hn, e⟩ | ⟨p, rfl, e⟩
    · rw [e]; exact h.1
    · rw [e, FMap.get_set_ne _ _ (fun e' => by subst e'; rw [h.1] at hn; cases hn)]; exact h.1
    · rw [e, FMap.get_del_ne _ (fun e' => hcall e')]; exact h.1
  refine ⟨hb, ?_⟩
  rcases step_objs cfg o a call with e | ⟨_, t0, _, _, _, _, _, e⟩ | ⟨c', hr, e⟩
  · rw [e]; exact h.2
  · rw [e]; exact addObj_keeps a _ c t0 t h.2
  · rw [e, FMap.get_del_ne _ (fun e' => by subst e'; rw [referenced_of_get hb] at hr; cases hr)]; exact h.2

/-- run a history on the specification -/
def runHistory (a : Abs) : List Call → Abs
  | [] => a
  | c :: r => runHistory (step cfg o a c).2 r

/-- any history that does not contain `delete_object(q)` keeps q's object,
    whatever else it does (other deletes, invalid validations, rejected stores,
    metadata calls …) -/
theorem history_keeps (a : Abs) (h : List Call) (q c : Str) (t : Tok)
    (hh : ∀ call ∈ h, ¬ IsDeleteOf q call) (h0 : Holds a q c t) :
    Holds (runHistory cfg o a h) q c t := by
  induction h generalizing a with
  | nil => exact h0
  | cons call r ih =>
    simp only [runHistory]
    apply ih
    · intro c' hc'; exact hh c' (List.mem_cons_of_mem _ hc')
    · exact referenced_object_kept cfg o a call q c t (hh call (List.mem_cons_self ..)) h0

/-- deleting the last referencing pid removes the object with it -/
theorem last_delete_removes (a : Abs) (p c : Str) (hp : checkStringOk p = true)
    (h : a.bind.get p = some c)
    (hlast : Abs.referenced { a with bind := a.bind.del p } c = false) :
    (step cfg o a (.deleteObject (.str p))).2.objs.get c = none := by
  simp only [step, deleteObj, checkString, hp, if_true, h, hlast]
  simp

/-- non-vacuity: two pids sharing one object -/
example : Holds { objs := FMap.empty.set "c".toList 7,
                  bind := (FMap.empty.set "p".toList "c".toList).set "q".toList "c".toList,
                  docs := .empty } "q".toList "c".toList 7 := by
  constructor <;> decide


/-- **concrete**: a pid reference and the object it names survive every
    concrete history of public calls that contains no `delete_object` of that pid -/
theorem concrete_history_keeps (st : Store) (log : List Eff) (a : Abs) (hs : Sim o st a) (ho : GoodOracle o)
    (hist : List Call) (q c : Str) (t : Tok)
    (hb : st.pidRefs.get (o.hId q) = some c) (hobj : st.objs.get c = some t)
    (hh : ∀ call ∈ hist, ¬ IsDeleteOf q call) (hcs : ∀ c ∈ hist, CidArgPlain c) :
    let w := (runHist cfg o hist (calm st log)).2
    w.st.pidRefs.get (o.hId q) = some c ∧ w.st.objs.get c = some t := by
  intro w
  obtain ⟨_, hs2, _, _⟩ := refines_history_from cfg o hist (calm st log) a rfl rfl hs ho hcs
  have hstate : ∀ (cs : List Call) (a : Abs), (specHist cfg o cs a).2 = runHistory cfg o a cs := by
    intro cs
    induction cs with
    | nil => intro a; rfl
    | cons c r ih => intro a; simp only [specHist, runHistory]; exact ih _
  rw [hstate] at hs2
  have h0 : Holds a q c t := ⟨by rw [hs.rel.bind]; exact hb, by rw [hs.rel.objs]; exact hobj⟩
  obtain ⟨k1, k2⟩ := history_keeps cfg o a hist q c t hh h0
  exact ⟨by rw [← hs2.rel.bind]; exact k1, by rw [← hs2.rel.objs]; exact k2⟩

/-- **Metadata operations and readers never remove or alter an object or a reference, however they
    interleave.** Any number of threads running `store_metadata`, `delete_metadata` (one format or
    all), `retrieve_object`, `retrieve_metadata`, `get_hex_digest` with any arguments, from any world,
    any fault plan, every schedule, every granularity: after every step every object, every pid
    reference and every cid reference list is exactly as at the start. -/
theorem metadata_calls_never_touch_objects_under_every_interleaving (calls : List Call)
    (hc : ∀ c ∈ calls, MetaOrRead c) (w0 : World) (fuel : Nat) (sched : List Nat) (n : Nat) :
    let cf := (runSchedule fuel { w := w0, ts := calls.map (fun c => TState.fresh (c.prog cfg o)) } sched n).1
    cf.w.st.objs = w0.st.objs ∧ cf.w.st.pidRefs = w0.st.pidRefs ∧ cf.w.st.cidRefs = w0.st.cidRefs := by
  intro cf
  have h0 : SafeConf DocsOnly (fun _ _ => True) (fun w => RefsAs w0.st w.st) (fun _ _ => True)
      { w := w0, ts := calls.map (fun c => TState.fresh (c.prog cfg o)) } := by
    refine ⟨⟨rfl, rfl, rfl⟩, ?_⟩
    intro i t hi
    simp only at hi
    rw [List.getElem?_map] at hi
    cases hci : calls[i]? with
    | none => rw [hci] at hi; cases hi
    | some c =>
      rw [hci] at hi; cases hi
      exact Prog.safe_of_allEv _ (metaOrRead_docsOnly cfg o c (hc c (List.mem_of_getElem? hci)))
  have h := (safe_schedule (refsAs_docsOnly w0.st) (fun _ _ _ => trivial) _ fuel sched _ n h0).1
  exact ⟨h.2.2, h.1, h.2.1⟩


end HS.C04
