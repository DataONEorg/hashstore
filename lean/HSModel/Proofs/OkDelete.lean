/-
  OkDelete — if `delete_object` returns normally, under ANY fault plan and from
  ANY state, the pid has no pid reference any more. Helper lemmas.
-/
import HSModel.Proofs.OkStore
import HSModel.Proofs.TrailDelete
import HSModel.Proofs.FaultMeta
namespace HS
variable (cfg : Config) (o : Oracle)

/-- primitives that cannot create the pid reference `k` -/
def KeepsGone (k : Str) : Ev → Prop
  | .eff (.publishPidRef k' _) => k' ≠ k
  | .eff (.retire (.pidRef k')) => k' ++ deleteSuffix ≠ k
  | _ => True

theorem gone_preserved (k : Str) : Prog.Preserved (KeepsGone k) (fun w => w.st.pidRefs.get k = none) := by
  apply preserved_of_store (J := fun s => s.pidRefs.get k = none)
  intro s x hx h
  refine Option.eq_none_iff_forall_ne_some.2 fun v hv => ?_
  have h' : s.pidRefs.get k ≠ some v := by rw [h]; exact nofun
  dsimp only [Store.after] at hv
  split at hv
  · rcases FMap.get_set_some hv with ⟨e, _⟩ | hv
    · exact hx e
    · exact h' hv
  · rcases FMap.get_rename_some hv with ⟨e, _⟩ | hv
    · exact hx e
    · exact h' hv
  · exact h' (FMap.get_del_some hv)
  · exact h' hv

/-- a successful retire of the pid reference leaves no pid reference at `k` -/
theorem retirePid_ok_inv {k : Str} {w w' : World} (h : Prog.run (eff (.retire (.pidRef k))) w = (.ok (), w')) :
    w'.st.pidRefs.get k = none := by
  simp only [eff, unitPrim, PE.prim, Prog.run] at h
  rcases respond_eff_cases w (.retire (.pidRef k)) with ⟨e, w1, hr, _, _⟩ | ⟨s', w2, ha, hr, hs, _⟩
  · rw [hr] at h; simp at h
  · rw [hr] at h
    injection h with _ h2
    subst h2
    rw [hs]
    cases Store.apply_eq_some ha
    apply FMap.get_rename_self
    intro e; have := congrArg List.length e; simp [deleteSuffix] at this

end HS

namespace HS
variable (cfg : Config) (o : Oracle)

theorem marker_ne (k : Str) : k ++ deleteSuffix ≠ k := by
  intro e; have := congrArg List.length e; simp [deleteSuffix] at this

theorem deleteMarked_keepsGone (k : Str) (l : List Loc) : (deleteMarked l).AllEv (KeepsGone k) := by
  induction l with
  | nil => exact PE.allEv_pure _
  | cons a r ih =>
    unfold deleteMarked
    apply PE.allEv_bind
    · apply PE.allEv_tryCatch
      · apply allEv_eff
        cases a <;> trivial
      · intro _; exact PE.allEv_pure _
    · intro _; exact ih

theorem dmc_keepsGone (k p : Str) (fmt : Option Str) : (deleteMetadataCore o p fmt).AllEv (KeepsGone k) := by
  apply Prog.allEv_mono _ _ (deleteMetadataCore_docsOnly o p fmt)
  intro e he
  cases e with
  | eff x =>
    cases x with
    | publishPidRef k' v => exact he.elim
    | retire l => cases l <;> first | exact he.elim | trivial
    | _ => trivial
  | _ => trivial

theorem findObject_keepsGone (k pid : Str) : (findObject cfg o pid).AllEv (KeepsGone k) := by
  unfold findObject
  repeat allev_step

theorem updateRefsRemove_keepsGone (k cid pid : Str) : (updateRefsRemove cid pid).AllEv (KeepsGone k) := by
  unfold updateRefsRemove
  repeat allev_step

theorem deleteObject_keepsGone (p : Str) : (deleteObject cfg o (.str p)).AllEv (KeepsGone (o.hId p)) := by
  unfold deleteObject
  apply PE.allEv_bind_post _ _ (PE.allEvR_ofExcept _)
  intro p' hp'
  have := checkString_str' hp'
  subst this
  repeat (first
    | exact findObject_keepsGone cfg o _ _
    | exact updateRefsRemove_keepsGone _ _ _
    | exact deleteMarked_keepsGone _ _
    | exact dmc_keepsGone o _ _ _
    | exact marker_ne _
    | allev_step)

end HS

namespace HS
variable (cfg : Config) (o : Oracle)

theorem Prog.allEv_bind_right {α β : Type} {P : Ev → Prop} (m : Prog α) (g : α → Prog β) (w : World)
    (h : (Prog.bind m g).AllEv P) : (g (m.run w).1).AllEv P := by
  induction m generalizing w with
  | ret a => exact h
  | op e k ih => exact ih _ _ (h.2 _)

theorem allEv_bind_ok {α β : Type} {P : Ev → Prop} {m : PE α} {f : α → PE β} (h : PE.AllEv P (m >>= f : PE β))
    {w w1 : World} {a : α} (hm : Prog.run m w = (.ok a, w1)) : (f a).AllEv P := by
  have h' : Prog.AllEv P (Prog.bind m fun r => match r with | .ok a => f a | .error e => Prog.ret (.error e)) := h
  have := Prog.allEv_bind_right (P := P) m _ w h'
  rw [hm] at this
  exact this

theorem allEv_tryCatch_left {α : Type} {P : Ev → Prop} {m : PE α} {hd : Exc → PE α}
    (h : PE.AllEv P (tryCatch m hd : PE α)) : m.AllEv P := by
  have h' : Prog.AllEv P (Prog.bind m fun r => match r with | .ok a => Prog.ret (.ok a) | .error e => hd e) := h
  clear h
  induction m with
  | ret a => trivial
  | op e k ih => exact ⟨h'.1, fun r => ih r (h'.2 r)⟩

theorem allEv_tryCatch_right {α : Type} {P : Ev → Prop} {m : PE α} {hd : Exc → PE α}
    (h : PE.AllEv P (tryCatch m hd : PE α)) {w w1 : World} {e : Exc} (hm : Prog.run m w = (.error e, w1)) :
    (hd e).AllEv P := by
  have h' : Prog.AllEv P (Prog.bind m fun r => match r with | .ok a => Prog.ret (.ok a) | .error e => hd e) := h
  have := Prog.allEv_bind_right (P := P) m _ w h'
  rw [hm] at this
  exact this

theorem allEv_withFinally_left {α : Type} {P : Ev → Prop} {m : PE α} {fin : PE Unit}
    (h : PE.AllEv P (PE.withFinally m fin)) : m.AllEv P := by
  unfold PE.withFinally at h
  have h' : Prog.AllEv P (Prog.bind m fun r => Prog.bind fin fun f => match f with
      | .ok _ => Prog.ret r | .error e => Prog.ret (.error e)) := h
  clear h
  induction m with
  | ret a => trivial
  | op e k ih => exact ⟨h'.1, fun r => ih r (h'.2 r)⟩

/-- once the pid reference is gone, a program under the discipline ends with it gone -/
theorem gone_at_end {α : Type} (k : Str) (m : PE α) (hm : m.AllEv (KeepsGone k)) (w : World)
    (hw : w.st.pidRefs.get k = none) : (Prog.run m w).2.st.pidRefs.get k = none :=
  Prog.run_inv m hm (gone_preserved k) w hw

end HS

namespace HS
variable (cfg : Config) (o : Oracle)

/-- `delete_object(p)` returned normally ⇒ p has no pid reference -/
theorem delete_ok_inv (p : Str) (w w' : World) (v : Val)
    (h : Prog.run (deleteObject cfg o (.str p)) w = (.ok v, w')) : w'.st.pidRefs.get (o.hId p) = none := by
  have hall := deleteObject_keepsGone cfg o p
  unfold deleteObject at h hall
  obtain ⟨p', w1, h1, hA⟩ := bind_ok_inv h
  clear h
  have hallA := allEv_bind_ok hall h1
  clear hall
  obtain ⟨hp, e1⟩ := ofExcept_ok_inv h1
  have hpp : p' = p := (checkString_str' hp)
  subst hpp
  subst e1
  clear h1 hp
  dsimp only at hA hallA
  obtain ⟨w2, hbody, hfin⟩ := withFinally_ok_inv hA
  have hallB := allEv_withFinally_left hallA
  rw [release_ok_st hfin]
  obtain ⟨_, w3, h3, hbody2⟩ := bind_ok_inv hbody
  have hallC := allEv_bind_ok hallB h3
  rcases tryCatch_ok_inv hbody2 with hm | ⟨e, we, hme, hh⟩
  · have hallD := allEv_tryCatch_left hallC
    obtain ⟨cid, w4, h4, hm2⟩ := bind_ok_inv hm
    have hallE := allEv_bind_ok hallD h4
    obtain ⟨_, w5, h5, hm3⟩ := bind_ok_inv hm2
    have hallF := allEv_bind_ok hallE h5
    obtain ⟨w6, hin, hfin2⟩ := withFinally_ok_inv hm3
    have hallG := allEv_withFinally_left hallF
    rw [release_ok_st hfin2]
    obtain ⟨_, w7, h7, hin2⟩ := bind_ok_inv hin
    have hallH := allEv_bind_ok hallG h7
    have hg := retirePid_ok_inv h7
    have := gone_at_end (o.hId p') _ hallH w7 hg
    rw [hin2] at this
    exact this
  · have hallD := allEv_tryCatch_right hallC hme
    split at hh
    · obtain ⟨_, w7, h7, hin2⟩ := bind_ok_inv hh
      have hallH := allEv_bind_ok hallD h7
      have hg := retirePid_ok_inv h7
      have := gone_at_end (o.hId p') _ hallH w7 hg
      rw [hin2] at this
      exact this
    · obtain ⟨c, w6, h6, hh2⟩ := bind_ok_inv hh
      have hallE := allEv_bind_ok hallD h6
      obtain ⟨_, w7, h7, hin2⟩ := bind_ok_inv hh2
      have hallH := allEv_bind_ok hallE h7
      have hg := retirePid_ok_inv h7
      have := gone_at_end (o.hId p') _ hallH w7 hg
      rw [hin2] at this
      exact this
    · obtain ⟨_, w7, h7, hin2⟩ := bind_ok_inv hh
      have hallH := allEv_bind_ok hallD h7
      have hg := retirePid_ok_inv h7
      have := gone_at_end (o.hId p') _ hallH w7 hg
      rw [hin2] at this
      exact this
    · exact absurd hh throw_not_ok

end HS
