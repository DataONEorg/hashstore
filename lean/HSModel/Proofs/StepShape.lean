/-
  StepShape — the state `Abs.step` leaves, per spec function (`…_snd`) and per component
  (`step_objs`, `step_bind`): the few shapes every frame property of the specification is read off.
-/
import HSModel.Proofs.StepLemmas
namespace HS
namespace Abs
variable (cfg : Config) (o : Oracle)

theorem tag_snd (a : Abs) (p c : Str) :
    (a.tag p c).2 = a ∨ (a.bind.get p = none ∧ (a.tag p c).2 = { a with bind := a.bind.set p c }) := by
  unfold tag; split
  · exact .inl rfl
  · exact .inr ⟨‹_›, rfl⟩

theorem deleteOnly_snd (a : Abs) (c : Str) :
    (a.deleteOnly c).2 = a ∨ (a.referenced c = false ∧ (a.deleteOnly c).2 = { a with objs := a.objs.del c }) := by
  unfold deleteOnly; split
  · exact .inl rfl
  · split
    · exact .inr ⟨Bool.eq_false_iff.mpr ‹_›, rfl⟩
    · exact .inl rfl

theorem storeData_snd (a : Abs) (data : DataArg) :
    (storeData cfg o a data).2 = a ∨ ∃ t, data = .ok t ∧ (storeData cfg o a data).2 = a.addObj (o.dig cfg.alg t) t := by
  unfold storeData; split
  · exact .inl rfl
  · exact .inr ⟨_, dataOnly_data ‹_›, rfl⟩

theorem storeObj_snd (a : Abs) (pid : SArg) (data : DataArg) (add cks ca : SArg) (sz : IArg) :
    (storeObj cfg o a pid data add cks ca sz).2 = a ∨
      ∃ p t, pid = .str p ∧ data = .ok t ∧
        (storeObj cfg o a pid data add cks ca sz).2 = ((a.addObj (o.dig cfg.alg t) t).tag p (o.dig cfg.alg t)).2 := by
  unfold storeObj; split
  · exact .inl rfl
  · dsimp only; split
    · exact .inl rfl
    · exact .inr ⟨_, _, storeArgs_pid cfg ‹_›, storeArgs_data cfg ‹_›, rfl⟩

theorem tagObj_snd (a : Abs) (pid cid : SArg) :
    (tagObj a pid cid).2 = a ∨ ∃ p c, pid = .str p ∧ (tagObj a pid cid).2 = (a.tag p c).2 := by
  unfold tagObj; split
  · exact .inl rfl
  · rename_i p c h
    simp only [bind_eq_ok, pure_eq_ok] at h
    obtain ⟨p', hp, c', _, hh⟩ := h
    cases hh
    exact .inr ⟨_, _, checkString_ok hp, rfl⟩

theorem divObj_snd (a : Abs) (om : Option ObjMeta) (cks ca : SArg) (sz : IArg) :
    (divObj cfg o a om cks ca sz).2 = a ∨ ∃ c, (divObj cfg o a om cks ca sz).2 = (a.deleteOnly c).2 := by
  unfold divObj
  repeat' split
  all_goals first | exact .inl rfl | exact .inr ⟨_, rfl⟩

theorem deleteObj_snd (a : Abs) (pid : SArg) :
    (deleteObj a pid).2 = a ∨ ∃ p c, pid = .str p ∧ a.bind.get p = some c ∧
      (deleteObj a pid).2 =
        { objs := if ({ a with bind := a.bind.del p } : Abs).referenced c then a.objs else a.objs.del c,
          bind := a.bind.del p, docs := a.dropDocs p } := by
  unfold deleteObj; split
  · exact .inl rfl
  · split
    · exact .inl rfl
    · exact .inr ⟨_, _, checkString_ok ‹_›, ‹_›, rfl⟩

theorem storeMeta_snd (a : Abs) (pid : SArg) (data : DataArg) (fmt : SArg) :
    (storeMeta cfg o a pid data fmt).2 = a ∨
      ∃ p f t, (storeMeta cfg o a pid data fmt).2 = { a with docs := a.docs.set (p, f) t } := by
  unfold storeMeta
  repeat' split
  all_goals first | exact .inl rfl | exact .inr ⟨_, _, _, rfl⟩

theorem deleteMeta_snd (a : Abs) (pid fmt : SArg) :
    ∃ d, (deleteMeta cfg a pid fmt).2 = { a with docs := d } := by
  unfold deleteMeta
  repeat' split
  all_goals exact ⟨_, rfl⟩

theorem retrieveObj_snd (a : Abs) (pid : SArg) : (retrieveObj a pid).2 = a := by
  unfold retrieveObj; repeat' split
  all_goals rfl

theorem retrieveMeta_snd (a : Abs) (pid fmt : SArg) : (retrieveMeta cfg a pid fmt).2 = a := by
  unfold retrieveMeta; repeat' split
  all_goals rfl

theorem hexDigest_snd (a : Abs) (pid alg : SArg) : (hexDigest o a pid alg).2 = a := by
  unfold hexDigest; repeat' split
  all_goals rfl

/-- the object map after a call: as before, or with the stored content put at its address if that
    was free, or with one address removed that nothing references any more -/
theorem step_objs (a : Abs) (call : Call) :
    (step cfg o a call).2.objs = a.objs ∨
    (∃ pid t add cks ca sz, call = .storeObject pid (.ok t) add cks ca sz ∧
      (step cfg o a call).2.objs = (a.addObj (o.dig cfg.alg t) t).objs) ∨
    (∃ c, (step cfg o a call).2.referenced c = false ∧ (step cfg o a call).2.objs = a.objs.del c) := by
  cases call with
  | storeObject pid data add cks ca sz =>
    have key : ∀ s : Abs, (s = a ∨ ∃ t, data = .ok t ∧ s.objs = (a.addObj (o.dig cfg.alg t) t).objs) →
        s.objs = a.objs ∨ (∃ pid' t add' cks' ca' sz', Call.storeObject pid data add cks ca sz =
          .storeObject pid' (.ok t) add' cks' ca' sz' ∧ s.objs = (a.addObj (o.dig cfg.alg t) t).objs) ∨
          (∃ c, s.referenced c = false ∧ s.objs = a.objs.del c) := by
      rintro s (rfl | ⟨t, rfl, h⟩)
      · exact .inl rfl
      · exact .inr (.inl ⟨_, _, _, _, _, _, rfl, h⟩)
    apply key
    simp only [step]; split
    · rcases storeData_snd cfg o a data with h | ⟨t, hd, h⟩
      · exact .inl h
      · exact .inr ⟨t, hd, by rw [h]⟩
    · rcases storeObj_snd cfg o a pid data add cks ca sz with h | ⟨p, t, _, hd, h⟩
      · exact .inl h
      · exact .inr ⟨t, hd, by rw [h, tag_objs]⟩
  | tagObject pid cid => exact .inl (tagObj_objs a pid cid)
  | deleteIfInvalid om cks ca sz =>
    simp only [step]
    rcases divObj_snd cfg o a om cks ca sz with h | ⟨c, h⟩
    · exact .inl (by rw [h])
    · rcases deleteOnly_snd a c with h' | ⟨hr, h'⟩
      · exact .inl (by rw [h, h'])
      · exact .inr (.inr ⟨c, by rw [h, h']; exact hr, by rw [h, h']⟩)
  | storeMetadata pid data fmt =>
    simp only [step]
    rcases storeMeta_snd cfg o a pid data fmt with h | ⟨p, f, t, h⟩ <;> exact .inl (by rw [h])
  | retrieveObject pid => exact .inl (by simp only [step, retrieveObj_snd])
  | retrieveMetadata pid fmt => exact .inl (by simp only [step, retrieveMeta_snd])
  | deleteObject pid =>
    simp only [step]
    rcases deleteObj_snd a pid with h | ⟨p, c, _, _, h⟩
    · exact .inl (by rw [h])
    · rw [h]
      by_cases hr : ({ a with bind := a.bind.del p } : Abs).referenced c = true
      · exact .inl (by simp only [hr, if_true])
      · exact .inr (.inr ⟨c, Bool.eq_false_iff.mpr hr, by simp only [hr]; rfl⟩)
  | deleteMetadata pid fmt =>
    simp only [step]
    obtain ⟨d, h⟩ := deleteMeta_snd cfg a pid fmt
    exact .inl (by rw [h])
  | getHexDigest pid alg => exact .inl (by simp only [step, hexDigest_snd])

/-- the bindings after a call: as before, or one unbound pid — the one the call is addressed to —
    bound, or the pid of a `delete_object` unbound -/
theorem step_bind (a : Abs) (call : Call) :
    (step cfg o a call).2.bind = a.bind ∨
    (∃ p c, call.pidStr = some p ∧ a.bind.get p = none ∧ (step cfg o a call).2.bind = a.bind.set p c) ∨
    (∃ p, call = .deleteObject (.str p) ∧ (step cfg o a call).2.bind = a.bind.del p) := by
  have htag : ∀ (b : Abs) (p c : Str), b.bind = a.bind →
      (b.tag p c).2.bind = a.bind ∨ (a.bind.get p = none ∧ (b.tag p c).2.bind = a.bind.set p c) := by
    intro b p c hb
    rcases tag_snd b p c with h | ⟨hn, h⟩
    · exact .inl (by rw [h, hb])
    · exact .inr ⟨by rw [← hb]; exact hn, by rw [h, ← hb]⟩
  cases call with
  | storeObject pid data add cks ca sz =>
    simp only [step]; split
    · exact .inl (storeData_bind cfg o a data)
    · rcases storeObj_snd cfg o a pid data add cks ca sz with h | ⟨p, t, rfl, _, h⟩
      · exact .inl (by rw [h])
      · rcases htag _ p (o.dig cfg.alg t) (addObj_bind a _ t) with h' | ⟨hn, h'⟩
        · exact .inl (by rw [h, h'])
        · exact .inr (.inl ⟨p, _, rfl, hn, by rw [h, h']⟩)
  | tagObject pid cid =>
    simp only [step]
    rcases tagObj_snd a pid cid with h | ⟨p, c, rfl, h⟩
    · exact .inl (by rw [h])
    · rcases htag a p c rfl with h' | ⟨hn, h'⟩
      · exact .inl (by rw [h, h'])
      · exact .inr (.inl ⟨p, _, rfl, hn, by rw [h, h']⟩)
  | deleteIfInvalid om cks ca sz => exact .inl (divObj_bind cfg o a om cks ca sz)
  | storeMetadata pid data fmt =>
    simp only [step]
    rcases storeMeta_snd cfg o a pid data fmt with h | ⟨p, f, t, h⟩ <;> exact .inl (by rw [h])
  | retrieveObject pid => exact .inl (by simp only [step, retrieveObj_snd])
  | retrieveMetadata pid fmt => exact .inl (by simp only [step, retrieveMeta_snd])
  | deleteObject pid =>
    simp only [step]
    rcases deleteObj_snd a pid with h | ⟨p, c, rfl, _, h⟩
    · exact .inl (by rw [h])
    · exact .inr (.inr ⟨p, rfl, by rw [h]⟩)
  | deleteMetadata pid fmt =>
    simp only [step]
    obtain ⟨d, h⟩ := deleteMeta_snd cfg a pid fmt
    exact .inl (by rw [h])
  | getHexDigest pid alg => exact .inl (by simp only [step, hexDigest_snd])

end Abs
end HS
