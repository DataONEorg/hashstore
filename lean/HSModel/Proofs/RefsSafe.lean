/-
  RefsSafe — the calls that never write a reference file or place an object
  (metadata calls, read-only calls, delete_if_invalid_object): a static
  discipline over all answers, and the invariants it carries. Helper lemmas.
-/
import HSModel.Proofs.Shape
import HSModel.Proofs.RunInv
import HSModel.Proofs.ClosedStore
namespace HS

/-- primitives that leave pid references, cid lists and the refs/objects temp
    areas alone, and can only take objects away -/
def RefsSafe : Ev → Prop
  | .eff (.mkdirs _ _) => True
  | .eff (.mkTmp .mdata) => True
  | .eff (.removeTmp .mdata) => True
  | .eff (.publishDoc _ _ _) => True
  | .eff (.retire (.mdoc _ _)) => True
  | .eff (.remove (.mdoc _ _)) => True
  | .eff (.remove (.obj _)) => True
  | .eff _ => False
  | _ => True

variable (cfg : Config) (o : Oracle)

theorem findObject_safe (pid : Str) : (findObject cfg o pid).AllEv RefsSafe := by
  unfold findObject
  repeat allev_step

theorem hexDigestCore_safe (pid alg : Str) : (hexDigestCore cfg o pid alg).AllEv RefsSafe := by
  unfold hexDigestCore
  repeat (first | exact findObject_safe cfg o _ | allev_step)

theorem retrieveObject_safe (pid : SArg) : (retrieveObject cfg o pid).AllEv RefsSafe := by
  unfold retrieveObject
  repeat (first | exact findObject_safe cfg o _ | allev_step)

theorem retrieveMetadata_safe (pid f : SArg) : (retrieveMetadata cfg o pid f).AllEv RefsSafe := by
  unfold retrieveMetadata
  repeat allev_step

theorem getHexDigest_safe (pid a : SArg) : (getHexDigest cfg o pid a).AllEv RefsSafe := by
  unfold getHexDigest
  repeat (first | exact hexDigestCore_safe cfg o _ _ | allev_step)

theorem deleteObjectOnly_safe (cid : Str) : (deleteObjectOnly cid).AllEv RefsSafe := by
  unfold deleteObjectOnly
  repeat allev_step

theorem deleteIfInvalid_safe (om : Option ObjMeta) (c ca : SArg) (s : IArg) :
    (deleteIfInvalidObject cfg o om c ca s).AllEv RefsSafe := by
  unfold deleteIfInvalidObject
  repeat (first | exact deleteObjectOnly_safe _ | allev_step)

theorem withDocLock_safe {α : Type} (doc : Str) (body : PE α) (h : body.AllEv RefsSafe) :
    (withDocLock doc body).AllEv RefsSafe := by
  unfold withDocLock
  repeat (first | exact h | allev_step)

theorem storeMetadata_safe (p : SArg) (d : DataArg) (f : SArg) : (storeMetadata cfg o p d f).AllEv RefsSafe := by
  unfold storeMetadata
  repeat (first | apply withDocLock_safe | allev_step)

def IsDocLoc : Loc → Prop
  | .mdoc _ _ => True
  | _ => False

theorem deleteMarked_safe (l : List Loc) (h : ∀ x ∈ l, IsDocLoc x) : (deleteMarked l).AllEv RefsSafe := by
  induction l with
  | nil => exact PE.allEv_pure _
  | cons a r ih =>
    unfold deleteMarked
    apply PE.allEv_bind
    · apply PE.allEv_tryCatch
      · apply allEv_eff
        have ha := h a (List.mem_cons_self ..)
        cases a <;> first | trivial | exact ha.elim
      · intro _; exact PE.allEv_pure _
    · intro _
      exact ih (fun x hx => h x (List.mem_cons_of_mem _ hx))

theorem retireDocs_safe (dir : Str) (names : List Str) :
    (retireDocs dir names).AllEvR RefsSafe (fun l => ∀ x ∈ l, IsDocLoc x) := by
  induction names with
  | nil => exact PE.allEvR_pure _ (by intro x hx; cases hx)
  | cons n r ih =>
    unfold retireDocs
    apply PE.allEvR_bind (Q := fun _ => True)
    · apply PE.allEvR_of_allEv
      apply withDocLock_safe
      apply allEv_eff
      trivial
    · intro _ _
      apply PE.allEvR_bind _ _ ih
      intro rest hrest
      apply PE.allEvR_pure
      intro x hx
      rcases List.mem_cons.mp hx with rfl | hx
      · trivial
      · exact hrest x hx

theorem deleteMetadataCore_safe (p : Str) (fmt : Option Str) : (deleteMetadataCore o p fmt).AllEv RefsSafe := by
  unfold deleteMetadataCore
  cases fmt with
  | none =>
    simp only
    apply PE.allEv_bind; · (apply allEv_listDocs; trivial)
    intro names
    split
    · exact PE.allEv_pure _
    · apply PE.allEv_bind_post _ _ (retireDocs_safe _ _)
      intro marked hm
      exact deleteMarked_safe _ hm
  | some f =>
    simp only
    apply withDocLock_safe
    repeat allev_step

theorem deleteMetadata_safe (p f : SArg) : (deleteMetadata cfg o p f).AllEv RefsSafe := by
  unfold deleteMetadata
  repeat (first | exact deleteMetadataCore_safe o _ _ | allev_step)

/-- a store invariant that looks only at references, refs/objects temp counts
    and object names survives every safe effect -/
theorem refsExact_safe_step {s : Store} {x : Eff} (hx : RefsSafe (.eff x)) (h : RefsExact o s) :
    RefsExact o (s.after x) := by
  have key : (s.after x).pidRefs = s.pidRefs ∧ (s.after x).cidRefs = s.cidRefs ∧
      (s.after x).tmpRefs = s.tmpRefs ∧ (s.after x).tmpObj = s.tmpObj ∧
      ∀ j v, (s.after x).objs.get j = some v → s.objs.get j = some v := by
    cases x with
    | mkdirs a k => exact ⟨rfl, rfl, rfl, rfl, fun _ _ h => h⟩
    | publishDoc d n t => exact ⟨rfl, rfl, rfl, rfl, fun _ _ h => h⟩
    | mkTmp a => cases a <;> first | exact hx.elim | exact ⟨rfl, rfl, rfl, rfl, fun _ _ h => h⟩
    | removeTmp a => cases a <;> first | exact hx.elim | exact ⟨rfl, rfl, rfl, rfl, fun _ _ h => h⟩
    | retire l => cases l <;> first | exact hx.elim | exact ⟨rfl, rfl, rfl, rfl, fun _ _ h => h⟩
    | remove l =>
      cases l with
      | obj c => exact ⟨rfl, rfl, rfl, rfl, fun _ _ => FMap.get_del_some⟩
      | mdoc d n => exact ⟨rfl, rfl, rfl, rfl, fun _ _ h => h⟩
      | _ => exact hx.elim
    | _ => exact hx.elim
  obtain ⟨k1, k2, k3, k4, k5⟩ := key
  refine ⟨?_, ?_, ?_, ?_, ?_⟩
  · intro k c hk; rw [k1] at hk; rw [k2]; exact h.pid_listed k c hk
  · intro c t hc; rw [k2] at hc; rw [k1]; exact h.list_ok c t hc
  · rw [k3, k4]; exact h.no_tmp
  · intro c t hc; rw [k2] at hc; exact h.cid_plain c t hc
  · intro c v hc; exact h.obj_plain c v (k5 c v hc)

theorem refsExact_safe_preserved : Prog.Preserved RefsSafe (fun w => RefsExact o w.st) :=
  preserved_of_store fun _ _ => refsExact_safe_step o

end HS
