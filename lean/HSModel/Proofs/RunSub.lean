/- run equations of the sub-programs the calls are made of (no fault plan) -/
import HSModel.Proofs.RunEq
import HSModel.Proofs.TextLemmas
import HSModel.Spec
namespace HS
variable (cfg : Config) (o : Oracle)

/-- the classification `_find_object` computes, read off the store -/
def Store.find (st : Store) (pid : Str) : Except Exc Str :=
  match st.pidRefs.get (o.hId pid) with
  | none => .error .pidRefsDoesNotExist
  | some cid =>
    match st.cidRefs.get cid with
    | none => .error .orphanPidRefsFileFound
    | some t =>
      if inRefs pid t then
        if st.objs.contains cid then .ok cid else .error .refsFileExistsButCidObjMissing
      else .error .pidNotFoundInCidRefsFile

section
variable (st : Store) (lk : Locks) (log : List Eff)

@[runeq] theorem run_findObject (pid : Str) :
    Prog.run (findObject cfg o pid) ⟨st, lk, none, log⟩ = (st.find o pid, ⟨st, lk, none, log⟩) := by
  unfold findObject Store.find
  cases h1 : st.pidRefs.get (o.hId pid) with
  | none => simp [runeq, h1]
  | some c =>
    cases h2 : st.cidRefs.get c with
    | none => simp [runeq, h1, h2]
    | some t =>
      cases hin : inRefs pid t <;> cases ho : st.objs.get c <;>
        simp [runeq, h1, h2, hin, ho]

/-- the check `_verify_hashstore_references` computes, read off the store -/
def Store.verify (st : Store) (pid cid : Str) : Except Exc Unit :=
  match st.pidRefs.get (o.hId pid), st.cidRefs.get cid with
  | none, _ => .error .pidRefsFileNotFound
  | some _, none => .error .cidRefsFileNotFound
  | some c, some t =>
    if c ≠ cid then .error .pidRefsContentError
    else if inRefs pid t then .ok () else .error .cidRefsContentError

@[runeq] theorem run_verifyRefs (pid cid : Str) :
    Prog.run (verifyRefs o pid cid) ⟨st, lk, none, log⟩ = (st.verify o pid cid, ⟨st, lk, none, log⟩) := by
  unfold verifyRefs Store.verify
  cases h1 : st.pidRefs.get (o.hId pid) with
  | none => simp [runeq, h1]
  | some c =>
    cases h2 : st.cidRefs.get cid with
    | none => simp [runeq, h1, h2]
    | some t =>
      by_cases hc : c = cid <;> cases hin : inRefs pid t <;>
        simp [runeq, h1, h2, hin, hc]

@[runeq] theorem run_writeRefsTmp :
    Prog.run writeRefsTmp ⟨st, lk, none, log⟩ =
      (.ok (), ⟨st.setTmp .refs (st.tmpRefs + 1), lk, none, log ++ [Eff.mkTmp .refs]⟩) := by
  simp [writeRefsTmp, runeq]

theorem run_updateRefsAdd {cid t : Str} (pid : Str) (h : st.cidRefs.get cid = some t) :
    Prog.run (updateRefsAdd cid pid) ⟨st, lk, none, log⟩ =
      if inRefs pid t then (.ok (), ⟨st, lk, none, log⟩)
      else (.ok (), ⟨{ st with cidRefs := st.cidRefs.set cid (t ++ (pid ++ ['\n'])) }, lk, none,
                     log ++ [Eff.appendCid cid (pid ++ ['\n'])]⟩) := by
  cases hin : inRefs pid t <;>
    simp [updateRefsAdd, runeq, h, hin]

theorem run_updateRefsRemove {cid t : Str} (pid : Str) (h : st.cidRefs.get cid = some t) :
    Prog.run (updateRefsRemove cid pid) ⟨st, lk, none, log⟩ =
      (.ok (),
        ⟨{ st with
            cidRefs := (st.cidRefs.set cid (overwritePrefix (removeLines pid t) t)).set cid (removeLines pid t) },
         lk, none,
         log ++ [Eff.rewriteCid cid (removeLines pid t), Eff.truncateCid cid (removeLines pid t).length]⟩) := by
  simp [updateRefsRemove, runeq, h, overwrite_truncate]

/-- `_move_and_get_checksums` without fault plan, any `pid` argument: by the verdict on the
    validation data and by whether the address is taken -/
theorem run_moveAndGetChecksums (pid : Option Str) (t : Tok)
    (add cs cks : Option Str) (sz : IArg) :
    Prog.run (moveAndGetChecksums cfg o pid t add cs cks sz) ⟨st, lk, none, log⟩ =
      match (verdict (Abs.objMetaOf cfg o t add cs).digests (fun a => o.dig a t) (o.size t) sz cks cs).exc,
          st.objs.get (o.dig cfg.alg t) with
      | none, none =>
        (.ok (Abs.objMetaOf cfg o t add cs),
         ⟨{ st with objs := st.objs.set (o.dig cfg.alg t) t, dirs := (Area.obj, o.dig cfg.alg t) :: st.dirs }, lk, none,
          log ++ [Eff.mkTmp .obj, Eff.mkdirs .obj (o.dig cfg.alg t), Eff.publishObj (o.dig cfg.alg t) t]⟩)
      | none, some _ =>
        (.ok (Abs.objMetaOf cfg o t add cs), ⟨st, lk, none, log ++ [Eff.mkTmp .obj, Eff.removeTmp .obj]⟩)
      | some e, none =>
        (.error e, if pid.isSome then ⟨st, lk, none, log ++ [Eff.mkTmp .obj, Eff.removeTmp .obj]⟩
                   else ⟨{ st with tmpObj := st.tmpObj + 1 }, lk, none, log ++ [Eff.mkTmp .obj]⟩)
      | some e, some _ => (.error e, ⟨st, lk, none, log ++ [Eff.mkTmp .obj, Eff.removeTmp .obj]⟩) := by
  simp only [Abs.objMetaOf]
  cases hv : (verdict ((refineAlgorithmList defaultAlgos add cs).map fun a => (a, o.dig a t)) (fun a => o.dig a t)
      (o.size t) sz cks cs).exc <;>
    cases ho : st.objs.get (o.dig cfg.alg t) <;> cases pid <;>
    simp [moveAndGetChecksums, runeq, hv, ho]


end
end HS
