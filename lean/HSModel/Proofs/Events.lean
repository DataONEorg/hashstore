/-
  Events — the primitives a run issues, in order (`Prog.events`, the third component of
  `Prog.runLog`), with the laws by which the events of a call are put together from those of
  its parts, so that each part is executed once. Helper lemmas for the fault-site lists of C13.
-/
import HSModel.Proofs.MetaRun
namespace HS
namespace Prog
variable {α β : Type}

def events (m : Prog α) (w : World) : List Ev := (m.runLog w []).2.2

theorem runLog_eq (m : Prog α) (w : World) (acc : List Ev) :
    m.runLog w acc = ((m.run w).1, (m.run w).2, acc.reverse ++ m.events w) := by
  induction m generalizing w acc with
  | ret a => simp [runLog, run, events]
  | op e k ih =>
    simp only [runLog, run, events]
    rw [ih, ih _ _ [e]]
    simp

theorem events_bind (m : Prog α) (f : α → Prog β) (w : World) :
    (Prog.bind m f).events w = m.events w ++ (f (m.run w).1).events (m.run w).2 := by
  induction m generalizing w with
  | ret a => rfl
  | op e k ih =>
    have h := ih (respond w e).1 (respond w e).2
    simp only [Prog.bind, events, runLog, run] at h ⊢
    rw [runLog_eq, runLog_eq (k _) _ [e]]
    simp only [events, h]
    simp
end Prog

namespace PE
variable {α β : Type}

theorem events_bind (m : PE α) (g : α → PE β) (w : World) :
    Prog.events (m >>= g : PE β) w = Prog.events m w ++
      (match (Prog.run m w).1 with
        | .ok a => Prog.events (g a) (Prog.run m w).2
        | .error _ => []) := by
  refine (Prog.events_bind (α := Except Exc α) m _ w).trans ?_
  congr 1
  cases (Prog.run m w).1 <;> rfl

theorem events_withFinally (m : PE α) (fin : PE Unit) (w : World) :
    Prog.events (PE.withFinally m fin) w = Prog.events m w ++ Prog.events fin (Prog.run m w).2 := by
  refine (Prog.events_bind (α := Except Exc α) m _ w).trans ?_
  rw [Prog.events_bind (α := Except Exc Unit) fin]
  congr 1
  generalize Prog.run fin (Prog.run m w).2 = y
  obtain ⟨r, w'⟩ := y
  cases r <;> simp [Prog.events, Prog.runLog]

end PE
end HS
