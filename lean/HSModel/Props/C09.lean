/-
  C09 — Permanent files are never observable half-written.
  (a) static discipline: whatever the file system answers, a call publishes an
      object only at the address of its own digest (`Shape`, proved for every
      call in Proofs/Shape.lean);
  (b) the invariant "every object key is the digest of the content it holds
      (possibly with deletion-marker suffixes)" is preserved by every single
      effect of that discipline — hence holds in the final state, at every crash
      prefix, and in every intermediate state of every call;
  (c) objects, metadata documents and pid references change value only by one
      whole-file step (publish / retire / remove): the model has no effect that
      writes them in place, and the correspondence run flags any in-place write
      of the real code;
  (d) whatever the file system answers, a call writes into a pid reference only
      its own cid and into a document only the data it was given (`Proofs/Whole.lean`),
      so at every instant every pid reference holds one whole cid some store / tag
      call supplied and every document one whole version some `store_metadata`
      call supplied.
-/
import HSModel.Proofs.Shape
import HSModel.Proofs.RunInv
import HSModel.Proofs.AbsLemmas
import HSModel.Proofs.Whole
import HSModel.Proofs.Reader
namespace HS.C09
variable (cfg : Config) (o : Oracle)

/-- `k` deletion-marker suffixes -/
def markers : Nat → Str
  | 0 => []
  | k + 1 => markers k ++ deleteSuffix

/-- every object key is the digest of the content stored there (a retired
    object keeps its content under `<digest>_delete`) -/
def ObjsAddressed (s : Store) : Prop :=
  ∀ c t, s.objs.get c = some t → ∃ k, c = o.dig cfg.alg t ++ markers k

theorem objs_step {s : Store} {x : Eff} (hx : PubAtDigest cfg o (.eff x)) (hs : ObjsAddressed cfg o s) :
    ObjsAddressed cfg o (s.after x) := by
  intro c t h
  dsimp only [Store.after] at h
  split at h
  · rcases FMap.get_set_some h with ⟨rfl, rfl⟩ | h0
    · exact ⟨0, by rw [show _ = _ from hx]; simp [markers]⟩
    · exact hs c t h0
  · rcases FMap.get_rename_some h with ⟨rfl, h0⟩ | h0
    · obtain ⟨k, hk⟩ := hs _ t h0
      exact ⟨k + 1, by rw [hk]; simp [markers, List.append_assoc]⟩
    · exact hs c t h0
  · exact hs c t (FMap.get_del_some h)
  · exact hs c t h

theorem preserved (p : Option Str) :
    Prog.Preserved (Shape cfg o p) (fun w => ObjsAddressed cfg o w.st) :=
  preserved_of_store fun _ _ hx => objs_step cfg o (pubAtDigest_of_shape cfg o p _ hx)

/-- after any call, from any state in which objects are well addressed — and
    under any fault plan the world carries — objects are well addressed -/
theorem objects_well_addressed_after (c : Call) (w : World) (h : ObjsAddressed cfg o w.st) :
    ObjsAddressed cfg o ((c.prog cfg o).run w).2.st :=
  Prog.run_inv _ (call_shape cfg o c) (preserved cfg o _) w h

/-- … at every point at which the process may die inside the call … -/
theorem objects_well_addressed_at_every_crash_point (c : Call) (n : Nat) (w : World)
    (h : ObjsAddressed cfg o w.st) :
    ObjsAddressed cfg o (Prog.crashAt n (c.prog cfg o) w).2.st :=
  Prog.crashAt_inv _ (call_shape cfg o c) (preserved cfg o _) n w h

/-- … and in every intermediate state a concurrent reader can observe -/
theorem objects_well_addressed_at_every_instant (c : Call) (w : World)
    (h : ObjsAddressed cfg o w.st) :
    ∀ s ∈ (Prog.runSnap (c.prog cfg o) w []).2.2, ObjsAddressed cfg o s :=
  Prog.runSnap_inv (J := ObjsAddressed cfg o) _ (call_shape cfg o c) (preserved cfg o _)
    (fun _ hw => hw) w h [] (by intro s hs; cases hs)

/-- over whole histories: start from the empty store, run any calls -/
theorem objects_well_addressed_history (cs : List Call) (w : World) (h : ObjsAddressed cfg o w.st) :
    ObjsAddressed cfg o (cs.foldl (fun w c => ((c.prog cfg o).run w).2) w).st := by
  induction cs generalizing w with
  | nil => exact h
  | cons c r ih => exact ih _ (objects_well_addressed_after cfg o c w h)

/-- objects, documents and pid references change only by whole-file steps: if an
    effect changes the value at a key of one of these maps, the effect is a
    publish, a retire or a remove (never an append / rewrite / truncate, which
    exist for cid reference lists only) -/
theorem permanent_entries_change_atomically (s s' : Store) (x : Eff) (ha : s.apply x = some s') :
    (s'.objs = s.objs ∧ s'.mdocs = s.mdocs ∧ s'.pidRefs = s.pidRefs) ∨
    (∃ c t, x = .publishObj c t) ∨ (∃ d n t, x = .publishDoc d n t) ∨ (∃ k t, x = .publishPidRef k t) ∨
    (∃ l, x = .retire l) ∨ (∃ l, x = .remove l) := by
  cases Store.apply_eq_some ha
  cases x with
  | publishObj c t => exact .inr (.inl ⟨c, t, rfl⟩)
  | publishDoc d n t => exact .inr (.inr (.inl ⟨d, n, t, rfl⟩))
  | publishPidRef k t => exact .inr (.inr (.inr (.inl ⟨k, t, rfl⟩)))
  | retire l => exact .inr (.inr (.inr (.inr (.inl ⟨l, rfl⟩))))
  | remove l => exact .inr (.inr (.inr (.inr (.inr ⟨l, rfl⟩))))
  | _ => exact .inl ⟨rfl, rfl, rfl⟩

/-- non-vacuity: the empty store satisfies the invariant, so every reachable
    store does -/
theorem empty_ok : ObjsAddressed cfg o Store.empty := by
  intro c t h
  simp [Store.empty] at h

/-! ### pid references and documents hold whole supplied values -/

/-- **Pid references and documents are whole at every instant.** During any
    call, under any fault plan, in every intermediate state a concurrent reader
    or a post-mortem can observe: each pid reference holds a value it held
    before the call or the call's own cid, each metadata document a version that
    was there before or the one this `store_metadata` supplied — never anything
    else (in particular nothing partial: a value appears by one publish). -/
theorem refs_and_docs_whole_at_every_instant (c : Call) (w : World) (vs : List Str) (ts : List Tok)
    (h : ValuesFrom vs ts w.st) :
    ∀ s ∈ (Prog.runSnap (c.prog cfg o) w []).2.2,
      ValuesFrom (vs ++ cidsSupplied cfg o c) (ts ++ docsSupplied c) s :=
  Prog.runSnap_inv (J := ValuesFrom (vs ++ cidsSupplied cfg o c) (ts ++ docsSupplied c)) _
    (call_supplies cfg o vs ts c) (values_preserved _ _) (fun _ hw => hw) w
    (valuesFrom_mono h (fun _ hv => List.mem_append_left _ hv) (fun _ ht => List.mem_append_left _ ht))
    [] (by intro s hs; cases hs)

/-- … at every point at which the process may die inside the call … -/
theorem refs_and_docs_whole_at_every_crash_point (c : Call) (n : Nat) (w : World) (vs : List Str) (ts : List Tok)
    (h : ValuesFrom vs ts w.st) :
    ValuesFrom (vs ++ cidsSupplied cfg o c) (ts ++ docsSupplied c) (Prog.crashAt n (c.prog cfg o) w).2.st :=
  Prog.crashAt_inv _ (call_supplies cfg o vs ts c) (values_preserved _ _) n w
    (valuesFrom_mono h (fun _ hv => List.mem_append_left _ hv) (fun _ ht => List.mem_append_left _ ht))

/-- … and after it -/
theorem refs_and_docs_whole_after (c : Call) (w : World) (vs : List Str) (ts : List Tok)
    (h : ValuesFrom vs ts w.st) :
    ValuesFrom (vs ++ cidsSupplied cfg o c) (ts ++ docsSupplied c) ((c.prog cfg o).run w).2.st :=
  Prog.run_inv _ (call_supplies cfg o vs ts c) (values_preserved _ _) w
    (valuesFrom_mono h (fun _ hv => List.mem_append_left _ hv) (fun _ ht => List.mem_append_left _ ht))

/-- over whole histories from the empty store: every pid reference holds the cid
    of one of the store / tag calls made, every document a version one of the
    `store_metadata` calls supplied -/
theorem refs_and_docs_whole_history (cs : List Call) (w : World) (vs : List Str) (ts : List Tok)
    (h : ValuesFrom vs ts w.st) :
    ValuesFrom (vs ++ cs.flatMap (cidsSupplied cfg o)) (ts ++ cs.flatMap docsSupplied)
      (cs.foldl (fun w c => ((c.prog cfg o).run w).2) w).st := by
  induction cs generalizing w vs ts with
  | nil => simpa using h
  | cons c r ih =>
    have := ih _ _ _ (refs_and_docs_whole_after cfg o c w vs ts h)
    simpa [List.flatMap_cons, List.append_assoc] using this

theorem values_empty : ValuesFrom [] [] Store.empty := by
  constructor
  · intro k v h; simp [Store.empty] at h
  · intro d n t h; simp [Store.empty] at h


/-! ### the same under every interleaving, and what readers get -/

/-- the content an object key may hold: the key is its digest (possibly with deletion markers) -/
def AtDigest (c : Str) (t : Tok) : Prop := ∃ k, c = o.dig cfg.alg t ++ markers k

/-- a world whose pid references and documents hold supplied values and whose objects sit at their
    digest answers reads accordingly -/
theorem good_answers (vs : List Str) (ts : List Tok) :
    Answers (fun w => ValuesFrom vs ts w.st ∧ ObjsAddressed cfg o w.st) (GoodAnswers vs ts (AtDigest cfg o)) := by
  intro w e hw
  rcases respond_fst w e with h | h <;> rw [h]
  · cases e <;> first | trivial | (rename_i l; cases l <;> trivial)
  cases e with
  | readDoc d n =>
    simp only [respondCore]
    cases hg : w.st.mdocs.get (d, n) with
    | none => trivial
    | some t => exact hw.1.2 d n t hg
  | readObj c =>
    simp only [respondCore]
    cases hg : w.st.objs.get c with
    | none => trivial
    | some t => exact hw.2 c t hg
  | readRef l =>
    cases l with
    | pidRef k =>
      simp only [respondCore]
      cases hg : w.st.pidRefs.get k with
      | none => trivial
      | some t => exact hw.1.1 k t hg
    | _ => simp only [GoodAnswers]
  | _ => simp only [GoodAnswers]

/-- what a call of a given kind may return under interleaving -/
def readerPost (vs : List Str) (ts : List Tok) : Option Call → Except Exc Val → Prop
  | some (.retrieveMetadata _ _) => ReadsFrom ts
  | some (.retrieveObject _) => ReadsObj vs (AtDigest cfg o)
  | _ => fun _ => True

/-- **Whole at every instant under every interleaving.** Any number of threads running any calls
    with any arguments, from any world (any directory whose pid references hold values from `vs0`,
    whose documents hold versions from `ts0` and whose objects sit at their digest; any lock lists;
    any fault plan), under every schedule and at every granularity of interleaving (`fuel = 1`: one
    primitive per step): after every step every pid reference holds a whole cid that was there or
    that one of the calls supplied, every document a whole version that was there or that one of the
    `store_metadata` calls supplied, every object sits at its digest; and a reader that has returned
    normally got — `retrieve_metadata`: one such whole version; `retrieve_object`: content whose
    digest is a cid one of those pid references held. -/
theorem whole_under_every_interleaving (calls : List Call) (w0 : World) (vs0 : List Str) (ts0 : List Tok)
    (hv : ValuesFrom vs0 ts0 w0.st) (hob : ObjsAddressed cfg o w0.st) (fuel : Nat) (sched : List Nat) (n : Nat) :
    let cf := (runSchedule fuel { w := w0, ts := calls.map (fun c => TState.fresh (c.prog cfg o)) } sched n).1
    let vs := vs0 ++ calls.flatMap (cidsSupplied cfg o)
    let ts := ts0 ++ calls.flatMap docsSupplied
    ValuesFrom vs ts cf.w.st ∧ ObjsAddressed cfg o cf.w.st ∧
    ∀ (i : Nat) (r : Except Exc Val), cf.ts[i]? = some (.finished r) →
      (∀ pid f, calls[i]? = some (.retrieveMetadata pid f) → ∀ t, r = .ok (.content t) → t ∈ ts) ∧
      (∀ pid, calls[i]? = some (.retrieveObject pid) → ∀ t, r = .ok (.content t) →
        ∃ c ∈ vs, ∃ k, c = o.dig cfg.alg t ++ markers k) := by
  intro cf vs ts
  let P : Ev → Prop := fun e => Supplies vs ts e ∧ PubAtDigest cfg o e
  let I : World → Prop := fun w => ValuesFrom vs ts w.st ∧ ObjsAddressed cfg o w.st
  have hpres : Prog.Preserved P I :=
    preserved_of_store (J := fun s => ValuesFrom vs ts s ∧ ObjsAddressed cfg o s)
      (fun _ _ hx hs => ⟨values_step hx.1 hs.1, objs_step cfg o hx.2 hs.2⟩)
  have hP : ∀ e, NoEff e → P e := fun e he => ⟨supplies_of_noEff vs ts e he, pubAtDigest_of_noEff cfg o e he⟩
  have hall : ∀ c ∈ calls, (c.prog cfg o : Prog (Except Exc Val)).AllEv P := by
    intro c hc
    apply allEv_and
    · apply Prog.allEv_mono _ _ (call_supplies cfg o [] [] c)
      apply supplies_mono
      · intro v hv'
        simp only [List.nil_append] at hv'
        exact List.mem_append_right _ (List.mem_flatMap.mpr ⟨c, hc, hv'⟩)
      · intro t ht'
        simp only [List.nil_append] at ht'
        exact List.mem_append_right _ (List.mem_flatMap.mpr ⟨c, hc, ht'⟩)
    · exact Prog.allEv_mono _ (pubAtDigest_of_shape cfg o _) (call_shape cfg o c)
  have h0 : SafeConf P (GoodAnswers vs ts (AtDigest cfg o)) I (fun i => readerPost cfg o vs ts calls[i]?)
      { w := w0, ts := calls.map (fun c => TState.fresh (c.prog cfg o)) } := by
    refine ⟨⟨valuesFrom_mono hv (fun _ h => List.mem_append_left _ h) (fun _ h => List.mem_append_left _ h), hob⟩, ?_⟩
    · intro i p hp
      simp only at hp
      cases hc : calls[i]? with
      | none => rw [List.getElem?_map, hc] at hp; cases hp
      | some c =>
        rw [List.getElem?_map, hc] at hp
        cases hp
        have hmem : c ∈ calls := List.mem_of_getElem? hc
        have key : Prog.Safe P (GoodAnswers vs ts (AtDigest cfg o)) (readerPost cfg o vs ts (some c))
            (c.prog cfg o : Prog (Except Exc Val)) := by
          cases c with
          | retrieveMetadata pid f => exact retrieveMetadata_safe cfg o P hP vs ts _ pid f
          | retrieveObject pid => exact retrieveObject_safe cfg o P hP vs ts _ pid
          | _ => exact Prog.safe_of_allEv _ (hall _ hmem)
        show Prog.Safe P _ (readerPost cfg o vs ts calls[i]?) _
        rw [hc]; exact key
  have hfin := safe_schedule hpres (good_answers cfg o vs ts) _ fuel sched _ n h0
  refine ⟨hfin.1.1, hfin.1.2, ?_⟩
  intro i r hi
  have hq := safe_finished hfin i r hi
  constructor
  · intro pid f hc t ht
    rw [hc] at hq
    exact hq t ht
  · intro pid hc t ht
    rw [hc] at hq
    obtain ⟨c, hcv, k, hk⟩ := hq t ht
    exact ⟨c, hcv, k, hk⟩

/-- non-vacuity: from the empty store with a writer of a document and a reader of it, one
    primitive per step -/
example : ValuesFrom [] [] Store.empty ∧ ObjsAddressed cfg o Store.empty := ⟨values_empty, empty_ok cfg o⟩

end HS.C09
