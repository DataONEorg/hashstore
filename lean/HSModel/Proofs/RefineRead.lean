/-
  RefineRead — the read-only calls compute what `Abs.step` says and change nothing.
  Helper lemmas.
-/
import HSModel.Proofs.Refine
import HSModel.Proofs.StepShape
namespace HS
variable (cfg : Config) (o : Oracle)

/-- on a store that holds `a`, `_find_object` classifies as the specification does -/
theorem find_rel {st : Store} {a : Abs} (hs : Sim o st a) (hinj : Inj o.hId) (p : Str) :
    st.find o p = a.find p := by
  unfold Store.find Abs.find
  rw [hs.rel.bind]
  cases h1 : st.pidRefs.get (o.hId p) with
  | none => rfl
  | some c =>
    obtain ⟨q, hq, _, t, h2, hin⟩ := hs.refs.pid_listed _ _ h1
    cases hinj _ _ hq
    have ho : a.objs.contains c = st.objs.contains c := by simp only [FMap.contains, hs.rel.objs]
    simp only [h2, hin, if_true, ho]

/-- `retrieve_object`: same result as the specification, world unchanged -/
theorem retrieve_refines (st : Store) (log : List Eff) (a : Abs) (pid : SArg)
    (hs : Sim o st a) (hinj : Inj o.hId) :
    (retrieveObject cfg o pid).run (calm st log) = ((Abs.retrieveObj a pid).1, calm st log) ∧
      (Abs.retrieveObj a pid).2 = a := by
  refine ⟨?_, Abs.retrieveObj_snd a pid⟩
  cases hpc : checkString pid with
  | error e => simp [retrieveObject, Abs.retrieveObj, runeq, hpc, calm, calmL]
  | ok p =>
    cases hf : a.find p with
    | error e => simp [retrieveObject, Abs.retrieveObj, runeq, hpc, calm, calmL, find_rel o hs hinj, hf]
    | ok c =>
      by_cases hc : c = [] <;> cases hg : st.objs.get c <;>
        simp [retrieveObject, Abs.retrieveObj, runeq, hpc, calm, calmL, find_rel o hs hinj, hf, hc, hs.rel.objs, hg]

/-- `get_hex_digest`: same result as the specification, world unchanged -/
theorem hex_refines (st : Store) (log : List Eff) (a : Abs) (pid alg : SArg)
    (hs : Sim o st a) (hinj : Inj o.hId) :
    (getHexDigest cfg o pid alg).run (calm st log) = ((Abs.hexDigest o a pid alg).1, calm st log) ∧
      (Abs.hexDigest o a pid alg).2 = a := by
  refine ⟨?_, Abs.hexDigest_snd o a pid alg⟩
  cases hpc : checkString pid with
  | error e => simp [getHexDigest, Abs.hexDigest, runeq, hpc, calm, calmL]
  | ok p =>
    cases hac : checkString alg with
    | error e => simp [getHexDigest, Abs.hexDigest, runeq, hpc, hac, calm, calmL]
    | ok al =>
      cases hcl : cleanAlgorithm al with
      | error e => simp [getHexDigest, Abs.hexDigest, runeq, hpc, hac, hcl, calm, calmL]
      | ok a' =>
        cases hf : a.find p with
        | error e =>
          simp [getHexDigest, hexDigestCore, Abs.hexDigest, runeq, hpc, hac, hcl, calm, calmL, find_rel o hs hinj, hf]
        | ok c =>
          cases hg : st.objs.get c <;>
            simp [getHexDigest, hexDigestCore, Abs.hexDigest, runeq, hpc, hac, hcl, calm, calmL, find_rel o hs hinj, hf,
              hs.rel.objs, hg]

/-- `retrieve_metadata`: same result as the specification, world unchanged -/
theorem rmeta_refines (st : Store) (log : List Eff) (a : Abs) (pid fmt : SArg)
    (hs : Sim o st a) :
    (retrieveMetadata cfg o pid fmt).run (calm st log) = ((Abs.retrieveMeta cfg a pid fmt).1, calm st log) ∧
      (Abs.retrieveMeta cfg a pid fmt).2 = a := by
  refine ⟨?_, Abs.retrieveMeta_snd cfg a pid fmt⟩
  cases hpc : checkString pid with
  | error e => simp [retrieveMetadata, Abs.retrieveMeta, Abs.metaArgs, runeq, hpc, calm, calmL]
  | ok p =>
    cases hf : checkArgFormatId cfg.ns fmt with
    | error e => simp [retrieveMetadata, Abs.retrieveMeta, Abs.metaArgs, runeq, hpc, hf, calm, calmL]
    | ok f =>
      cases hdoc : st.mdocs.get (o.hId p, o.hId (p ++ f)) <;>
        simp [retrieveMetadata, Abs.retrieveMeta, Abs.metaArgs, runeq, hpc, hf, calm, calmL, hs.rel.docs, hdoc]

end HS

namespace HS
variable (cfg : Config) (o : Oracle)

theorem refsExact_of_eq {s s' : Store} (h : RefsExact o s) (h1 : s'.pidRefs = s.pidRefs) (h2 : s'.cidRefs = s.cidRefs)
    (h3 : s'.objs = s.objs) (h4 : s'.tmpRefs = s.tmpRefs) (h5 : s'.tmpObj = s.tmpObj) : RefsExact o s' := by
  refine ⟨?_, ?_, by rw [h4, h5]; exact h.no_tmp, ?_, ?_⟩
  · intro k c hk; rw [h1] at hk; rw [h2]; exact h.pid_listed k c hk
  · intro c t hc; rw [h2] at hc; rw [h1]; exact h.list_ok c t hc
  · intro c t hc; rw [h2] at hc; exact h.cid_plain c t hc
  · intro c t hc; rw [h3] at hc; exact h.obj_plain c t hc

/-- `store_metadata`: same result as the specification, related final states -/
theorem smeta_refines (st : Store) (log : List Eff) (a : Abs) (pid : SArg) (data : DataArg) (fmt : SArg)
    (hs : Sim o st a) (hinj : Inj o.hId) :
    ∃ w', (storeMetadata cfg o pid data fmt).run (calm st log) = ((Abs.storeMeta cfg o a pid data fmt).1, w') ∧
      w'.lk = {} ∧ w'.fault = none ∧ Sim o w'.st (Abs.storeMeta cfg o a pid data fmt).2 := by
  obtain ⟨hr, hi, hd⟩ := hs
  cases hpc : checkString pid with
  | error e =>
    have hspec : Abs.storeMeta cfg o a pid data fmt = (.error e, a) := by simp [Abs.storeMeta, hpc]
    rw [hspec]
    exact ⟨calm st log, by simp [storeMetadata, runeq, hpc], rfl, rfl, ⟨hr, hi, hd⟩⟩
  | ok p =>
    cases hda : checkArgData data with
    | error e =>
      have hspec : Abs.storeMeta cfg o a pid data fmt = (.error e, a) := by simp [Abs.storeMeta, hpc, hda]
      rw [hspec]
      exact ⟨calm st log, by simp [storeMetadata, runeq, hpc, hda], rfl, rfl, ⟨hr, hi, hd⟩⟩
    | ok _ =>
      cases hf : checkArgFormatId cfg.ns fmt with
      | error e =>
        have hspec : Abs.storeMeta cfg o a pid data fmt = (.error e, a) := by simp [Abs.storeMeta, hpc, hda, hf]
        rw [hspec]
        exact ⟨calm st log, by simp [storeMetadata, runeq, hpc, hda, hf], rfl, rfl, ⟨hr, hi, hd⟩⟩
      | ok f =>
        cases hst : openStream data with
        | error e =>
          have hspec : Abs.storeMeta cfg o a pid data fmt = (.error e, a) := by
            simp [Abs.storeMeta, hpc, hda, hf, hst]
          rw [hspec]
          exact ⟨calm st log, by simp [storeMetadata, withDocLock, runeq, hpc, hda, hf, hst, calm, calmL], rfl, rfl,
            ⟨hr, hi, hd⟩⟩
        | ok t =>
          have hspec : Abs.storeMeta cfg o a pid data fmt =
              (.ok (.path (.mdoc (o.hId p) (o.hId (p ++ f)))), { a with docs := a.docs.set (p, f) t }) := by
            simp [Abs.storeMeta, hpc, hda, hf, hst]
          rw [hspec]
          refine ⟨calm { st with mdocs := st.mdocs.set (o.hId p, o.hId (p ++ f)) t,
                                 dirs := (Area.mdata, o.hId p) :: st.dirs }
              (log ++ [Eff.mkTmp .mdata, Eff.mkdirs .mdata (o.hId p), Eff.publishDoc (o.hId p) (o.hId (p ++ f)) t]),
            ?_, rfl, rfl, ?_⟩
          · simp [storeMetadata, withDocLock, runeq, hpc, hda, hf, hst, calm, calmL]
          · refine ⟨⟨hr.bind, hr.objs, ?_, hr.wf⟩, refsExact_of_eq o hi rfl rfl rfl rfl rfl, ?_⟩
            · intro q g
              show (a.docs.set (p, f) t).get (q, g) = (st.mdocs.set (o.hId p, o.hId (p ++ f)) t).get (o.hId q, o.hId (q ++ g))
              rw [FMap.get_set, FMap.get_set]
              by_cases e : (p, f) = (q, g)
              · injection e with e1 e2; subst e1; subst e2; simp
              · have : (o.hId p, o.hId (p ++ f)) ≠ (o.hId q, o.hId (q ++ g)) := by
                  intro e2
                  injection e2 with e3 e4
                  have e5 := hinj _ _ e3
                  subst e5
                  have e6 := hinj _ _ e4
                  exact e (by rw [List.append_cancel_left e6])
                simp [e, this, hr.docs]
            · refine ⟨?_, ?_, hd.no_tmp⟩
              · intro d n x hx
                have hx' : (st.mdocs.set (o.hId p, o.hId (p ++ f)) t).get (d, n) = some x := hx
                rw [FMap.get_set] at hx'
                split at hx'
                · rename_i e; injection e with e1 e2; exact ⟨p, f, e1.symm, e2.symm⟩
                · exact hd.named d n x hx'
              · intro d n x hx
                have hx' : (st.mdocs.set (o.hId p, o.hId (p ++ f)) t).get (d, n) = some x := hx
                show (Area.mdata, d) ∈ (Area.mdata, o.hId p) :: st.dirs
                rw [FMap.get_set] at hx'
                split at hx'
                · rename_i e; injection e with e1 e2; simp [e1]
                · exact List.mem_cons_of_mem _ (hd.dir d n x hx')

end HS
