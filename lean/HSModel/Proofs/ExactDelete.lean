/-
  ExactDelete — `delete_object` preserves the two-index invariant. Helper lemmas.
-/
import HSModel.Proofs.Exact
import HSModel.Proofs.ClosedDelete
namespace HS

theorem FMap.get_retire_remove {V : Type} (m : FMap Str V) (k j : Str) (v : V) :
    (((m.del k).set (k ++ deleteSuffix) v).del (k ++ deleteSuffix)).get j =
      if k ++ deleteSuffix = j then none else if k = j then none else m.get j := by
  rw [FMap.get_del]
  split
  · rfl
  · rename_i h
    rw [FMap.get_set_ne _ _ h, FMap.get_del]

variable (o : Oracle)

/-- identifier hashes are never deletion markers (they are hexadecimal) -/
def PlainIds : Prop := ∀ p, Plain (o.hId p)

/-- the semantic effect of a completed `delete_object(p)` on the references -/
theorem exact_delete_core (s s' : Store) (p c : Str) (ls : List Str) (h : RefsExact o s)
    (hinj : ∀ q, o.hId q = o.hId p → q = p)
    (h1 : s.pidRefs.get (o.hId p) = some c) (h2 : s.cidRefs.get c = some (renderLines ls))
    (hls : ∀ l ∈ ls, hasSpace l = false)
    (hpid : ∀ j, s'.pidRefs.get j = if o.hId p = j then none else s.pidRefs.get j)
    (hcid : ∀ j, s'.cidRefs.get j =
      if c = j then (if ls.filter (fun l => !decide (l = p)) = [] then none
                     else some (renderLines (ls.filter fun l => !decide (l = p))))
      else s.cidRefs.get j)
    (hobj : ∀ j x, s'.objs.get j = some x → s.objs.get j = some x)
    (htmp : s'.tmpRefs = s.tmpRefs ∧ s'.tmpObj = s.tmpObj) : RefsExact o s' := by
  obtain ⟨ls0, hls0, _, hnd0, hall0⟩ := h.list_ok c _ h2
  have hsp0 : ∀ l ∈ ls0, hasSpace l = false := fun l hl => nospace_of_ok (hall0 l hl).1
  have hls' : ls = ls0 := renderLines_inj ls ls0 hls hsp0 hls0
  subst hls'
  have hrsp : ∀ l ∈ ls.filter (fun l => !decide (l = p)), hasSpace l = false :=
    fun l hl => hls l (List.mem_filter.1 hl).1
  refine ⟨?_, ?_, ?_, ?_, ?_⟩
  · intro k c' hk
    rw [hpid] at hk
    split at hk
    · cases hk
    · rename_i hne
      obtain ⟨q, hq, hqok, t, ht, hin⟩ := h.pid_listed k c' hk
      have hqp : q ≠ p := by intro e; subst e; exact hne hq.symm
      refine ⟨q, hq, hqok, ?_⟩
      by_cases e : c = c'
      · subst e
        rw [h2] at ht; cases ht
        rw [inRefs_render q ls hls] at hin
        have hmem : q ∈ ls.filter (fun l => !decide (l = p)) := by
          simp only [List.contains_eq_mem, decide_eq_true_eq] at hin
          exact List.mem_filter.2 ⟨hin, by simpa using hqp⟩
        have hne' : ls.filter (fun l => !decide (l = p)) ≠ [] := List.ne_nil_of_mem hmem
        refine ⟨_, by rw [hcid, if_pos rfl, if_neg hne'], ?_⟩
        rw [inRefs_render q _ hrsp]; simpa using hmem
      · exact ⟨t, by rw [hcid, if_neg e]; exact ht, hin⟩
  · intro c' t ht
    rw [hcid] at ht
    split at ht
    · rename_i e
      subst e
      split at ht
      · cases ht
      · rename_i hne
        cases ht
        refine ⟨_, rfl, hne, hnd0.filter _, ?_⟩
        intro q hq
        obtain ⟨hq1, hq2⟩ := List.mem_filter.1 hq
        have hqp : q ≠ p := by simpa using hq2
        obtain ⟨hqok, hqb⟩ := hall0 q hq1
        refine ⟨hqok, ?_⟩
        rw [hpid, if_neg (fun e => hqp (hinj q e.symm))]
        exact hqb
    · rename_i e
      obtain ⟨ls', hls', hne, hnd, hall⟩ := h.list_ok c' t ht
      refine ⟨ls', hls', hne, hnd, ?_⟩
      intro q hq
      obtain ⟨hqok, hqb⟩ := hall q hq
      refine ⟨hqok, ?_⟩
      have : o.hId p ≠ o.hId q := by
        intro e2
        have := hinj q e2.symm
        subst this
        rw [h1] at hqb; cases hqb; exact e rfl
      rw [hpid, if_neg this]; exact hqb
  · rw [htmp.1, htmp.2]; exact h.no_tmp
  · intro c' t ht
    rw [hcid] at ht
    split at ht
    · rename_i e; subst e; exact h.cid_plain c _ h2
    · exact h.cid_plain c' t ht
  · intro c' x hx
    exact h.obj_plain c' x (hobj c' x hx)


variable (cfg : Config)

theorem checkString_ok_inv {a : SArg} {p : Str} (h : checkString a = .ok p) :
    a = .str p ∧ checkStringOk p = true := by
  cases a <;> simp [checkString] at h
  rename_i s
  split at h <;> simp_all

/-- the effect of `delete_object(p)` on a bound pid, from a store whose indexes agree -/
theorem delete_effect (st : Store) (log : List Eff) (q c : Str) (h : RefsExact o st) (hpl : PlainIds o)
    (hinj : ∀ r, o.hId r = o.hId q → r = q) (hp : checkStringOk q = true)
    (h1 : st.pidRefs.get (o.hId q) = some c) :
    ∃ ls w', st.cidRefs.get c = some (renderLines ls) ∧ (∀ l ∈ ls, hasSpace l = false) ∧ q ∈ ls ∧
      (deleteObject cfg o (.str q)).run (calm st log) = (.ok .unit, w') ∧
      w'.lk = {} ∧ w'.fault = none ∧ w'.st.tmpRefs = st.tmpRefs ∧ w'.st.tmpObj = st.tmpObj ∧
      (∀ j, w'.st.pidRefs.get j = if o.hId q = j then none else st.pidRefs.get j) ∧
      (∀ j, w'.st.cidRefs.get j =
        if c = j then (if ls.filter (fun l => !decide (l = q)) = [] then none
                       else some (renderLines (ls.filter fun l => !decide (l = q))))
        else st.cidRefs.get j) ∧
      (∀ j, w'.st.objs.get j =
        if c = j ∧ ls.filter (fun l => !decide (l = q)) = [] then none else st.objs.get j) ∧
      (DocsPlainM st.mdocs st.dirs → DocsDropped o q st w'.st) := by
  obtain ⟨q', hq, _, t, h2, hin⟩ := h.pid_listed _ _ h1
  have hqp : q' = q := hinj q' hq.symm
  subst hqp
  obtain ⟨ls, hls, _, _, hall⟩ := h.list_ok c t h2
  subst hls
  have hsp : ∀ l ∈ ls, hasSpace l = false := fun l hl => nospace_of_ok (hall l hl).1
  have hmem : q' ∈ ls := by
    rw [inRefs_render q' ls hsp] at hin; simpa using hin
  -- no marker name is in use: the three indexes hold plain names only
  have hkm : st.pidRefs.get (o.hId q' ++ deleteSuffix) = none := by
    cases hx : st.pidRefs.get (o.hId q' ++ deleteSuffix) with
    | none => rfl
    | some y =>
      obtain ⟨r, hr, _⟩ := h.pid_listed _ _ hx
      exact absurd (hr ▸ hpl r) (not_plain_marker _)
  have hcm : st.cidRefs.get (c ++ deleteSuffix) = none := by
    cases hx : st.cidRefs.get (c ++ deleteSuffix) with
    | none => rfl
    | some y => exact absurd (h.cid_plain _ _ hx) (not_plain_marker _)
  have hom : st.objs.get (c ++ deleteSuffix) = none := by
    cases hx : st.objs.get (c ++ deleteSuffix) with
    | none => rfl
    | some y => exact absurd (h.obj_plain _ _ hx) (not_plain_marker _)
  have hne : ∀ k : Str, k ++ deleteSuffix ≠ k := by
    intro k e; have := congrArg List.length e; simp [deleteSuffix] at this
  obtain ⟨w', hrun, hlk, hnf, htr, hto, hpr, hcr, hob, hdd⟩ := delete_run cfg o st log q' c ls hp h1 h2 hsp hmem
  refine ⟨ls, w', h2, hsp, hmem, hrun, hlk, hnf, htr, hto, ?_, ?_, ?_, hdd⟩
  · intro j
    rw [hpr, FMap.get_retire_remove]
    split
    · rename_i e; subst e; rw [hkm]; split <;> rfl
    · rfl
  · intro j
    rw [hcr]
    split
    · rw [FMap.get_retire_remove]
      split
      · rename_i e; subst e; rw [hcm]; split <;> rfl
      · split
        · rfl
        · rename_i e; rw [FMap.get_set_ne _ _ e, FMap.get_set_ne _ _ e]
    · rw [FMap.get_set]
      split
      · rfl
      · rename_i e; rw [FMap.get_set_ne _ _ e]
  · intro j
    rw [hob]
    by_cases hrest : ls.filter (fun l => !decide (l = q')) = []
    · cases hobj : st.objs.get c with
      | none =>
        by_cases e2 : c = j
        · subst e2; simp [hobj]
        · simp [e2]
      | some x =>
        simp only [hrest, if_true, and_true]
        rw [FMap.get_retire_remove]
        by_cases e1 : c ++ deleteSuffix = j
        · subst e1; simp [(hne c).symm, hom]
        · simp [e1]
    · cases st.objs.get c <;> simp [hrest]

/-- `delete_object` (any argument) preserves the two-index invariant; with a
    collision-free identifier hash at this pid -/
theorem delete_exact (st : Store) (log : List Eff) (pid : SArg) (h : RefsExact o st) (hpl : PlainIds o)
    (hinj : ∀ p q, pid = .str p → o.hId q = o.hId p → q = p) :
    RefsExact o ((deleteObject cfg o pid).run (calm st log)).2.st := by
  cases hpc : checkString pid with
  | error e =>
    have : (deleteObject cfg o pid).run (calm st log) = (.error e, calm st log) := by
      simp [deleteObject, runeq, hpc, calm]
    rw [this]; exact h
  | ok p =>
    obtain ⟨hp1, hp⟩ := checkString_ok_inv hpc
    subst hp1
    cases h1 : st.pidRefs.get (o.hId p) with
    | none => rw [delete_unknown cfg o st log p hp h1]; exact h
    | some c =>
      obtain ⟨ls, w', h2, hsp, _, hrun, _, _, htr, hto, hpid, hcid, hobj, _⟩ :=
        delete_effect o cfg st log p c h hpl (fun r => hinj p r rfl) hp h1
      rw [hrun]
      refine exact_delete_core o st w'.st p c ls h (fun r => hinj p r rfl) h1 h2 hsp hpid hcid ?_ ⟨htr, hto⟩
      intro j y hy
      rw [hobj] at hy
      split at hy
      · cases hy
      · exact hy

end HS
