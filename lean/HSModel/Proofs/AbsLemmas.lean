/- helper lemmas about the abstract specification (no property statements here) -/
import HSModel.Spec
import HSModel.Proofs.StoreStep
namespace HS

theorem bind_eq_ok {ε α β : Type} (x : Except ε α) (f : α → Except ε β) (b : β) :
    (x >>= f) = .ok b ↔ ∃ a, x = .ok a ∧ f a = .ok b := by
  cases x with
  | error e => simp [bind, Except.bind]
  | ok a => simp [bind, Except.bind]

@[simp] theorem ok_bind {ε α β : Type} (a : α) (f : α → Except ε β) : (Except.ok a >>= f) = f a := rfl
@[simp] theorem error_bind {ε α β : Type} (e : ε) (f : α → Except ε β) :
    ((Except.error e : Except ε α) >>= f) = .error e := rfl
@[simp] theorem pure_ok {ε α : Type} (a : α) : (pure a : Except ε α) = .ok a := rfl

theorem pure_eq_ok {ε α : Type} (a b : α) : (pure a : Except ε α) = .ok b ↔ a = b := by
  simp [pure, Except.pure]

namespace FMap
variable {K V : Type} [DecidableEq K]

theorem mem_of_getL {l : List (K × V)} {k : K} {v : V} (h : getL l k = some v) : (k, v) ∈ l := by
  induction l with
  | nil => simp [getL] at h
  | cons a r ih =>
    obtain ⟨k', v'⟩ := a
    by_cases hk : k' = k
    · subst hk
      simp [getL] at h
      simp [h]
    · simp [getL, hk] at h
      exact List.mem_cons_of_mem _ (ih h)

theorem mem_of_get {m : FMap K V} {k : K} {v : V} (h : m.get k = some v) : (k, v) ∈ m.entries :=
  mem_of_getL h

end FMap

namespace Abs

theorem referenced_of_get {a : Abs} {q c : Str} (h : a.bind.get q = some c) :
    a.referenced c = true := by
  unfold referenced
  rw [List.any_eq_true]
  exact ⟨(q, c), FMap.mem_of_get h, by simp⟩

theorem tag_bound {a : Abs} {p c : Str} (c' : Str) (h : a.bind.get p = some c) :
    a.tag p c' = (.error (if a.referenced c' then .hashStoreRefsAlreadyExists
                          else .pidRefsAlreadyExists), a) := by
  unfold tag
  rw [h]

theorem tag_unbound {a : Abs} {p : Str} (c' : Str) (h : a.bind.get p = none) :
    a.tag p c' = (.ok (), { a with bind := a.bind.set p c' }) := by
  unfold tag
  rw [h]

theorem addObj_bind (a : Abs) (c : Str) (t : Tok) : (a.addObj c t).bind = a.bind := by
  unfold addObj; split <;> rfl

theorem addObj_docs (a : Abs) (c : Str) (t : Tok) : (a.addObj c t).docs = a.docs := by
  unfold addObj; split <;> rfl

theorem addObj_keeps (a : Abs) (c c' : Str) (t t' : Tok) (h : a.objs.get c' = some t') :
    (a.addObj c t).objs.get c' = some t' := by
  unfold addObj
  split
  · exact h
  · rename_i hc
    have : c ≠ c' := by
      intro e; subst e
      apply hc
      rw [FMap.contains_iff]; exact ⟨_, h⟩
    simp [FMap.get_set_ne _ _ this, h]

theorem addObj_get_self (a : Abs) (c : Str) (t : Tok) :
    (a.addObj c t).objs.get c = some t ∨ ∃ t', a.objs.get c = some t' ∧ (a.addObj c t).objs.get c = some t' := by
  unfold addObj
  split
  · rename_i hc
    rw [FMap.contains_iff] at hc
    obtain ⟨v, hv⟩ := hc
    exact Or.inr ⟨v, hv, hv⟩
  · left; simp

end Abs
end HS

namespace HS
namespace FMap
variable {K V : Type} [DecidableEq K]

theorem getL_filter_keys (l : List (K × V)) (keep : K → Bool) (k : K) :
    getL (l.filter fun e => keep e.1) k = if keep k then getL l k else none := by
  induction l with
  | nil => simp [getL]
  | cons a r ih =>
    obtain ⟨k', v⟩ := a
    by_cases hk : keep k' = true
    · simp only [List.filter_cons, hk, if_true, getL]
      by_cases he : k' = k
      · subst he; simp [hk]
      · simp [he, ih]
    · simp only [List.filter_cons, hk]
      simp only [Bool.false_eq_true, if_false, getL, ih]
      by_cases he : k' = k
      · subst he; simp [hk]
      · simp [he]

end FMap

namespace Abs
theorem dropDocs_get (a : Abs) (p q g : Str) :
    (a.dropDocs p).get (q, g) = if q = p then none else a.docs.get (q, g) := by
  unfold dropDocs FMap.get
  have := FMap.getL_filter_keys a.docs.entries (fun k => decide (k.1 ≠ p)) (q, g)
  simp only [decide_not, Bool.not_eq_eq_eq_not, Bool.not_true, decide_eq_false_iff_not] at this
  by_cases h : q = p
  · subst h
    simp only [if_true]
    simpa using this
  · simp only [h, if_false]
    simpa [h] using this
end Abs
end HS
