/- simp set used to execute programs symbolically on explicit worlds -/
import Lean
register_simp_attr runsimp
/-- run equations: one per combinator, primitive and sub-program (Proofs/RunEq.lean) -/
register_simp_attr runeq
