/-
  DiscRun — a lock-disciplined program, run sequentially from a world whose
  lock lists hold exactly what the program holds, is never blocked and leaves
  the lists holding exactly its postcondition's locks — under any fault plan.
-/
import HSModel.Proofs.Disc
import HSModel.Proofs.RunInv
namespace HS

/-- the four lists contain exactly the identifiers of `h`, class by class -/
def Matches (lk : Locks) (h : List Lock) : Prop :=
  ∀ c, lk.get c = (h.filter fun l => l.cls = c).map (·.id)

theorem locks_get_put (lk : Locks) (c d : LockClass) (v : List Str) :
    (lk.put c v).get d = if d = c then v else lk.get d := by
  cases c <;> cases d <;> simp [Locks.put, Locks.get]

theorem matches_empty : Matches {} [] := by
  intro c; cases c <;> rfl

theorem matches_nil_iff (lk : Locks) (h : Matches lk []) : lk = {} := by
  have h1 := h .objPid; have h2 := h .refPid; have h3 := h .cid; have h4 := h .doc
  simp [Locks.get] at h1 h2 h3 h4
  cases lk; simp_all

theorem filter_cls_empty (h : List Lock) (c : LockClass) (hord : ∀ x ∈ h, x.cls.rank < c.rank) :
    (h.filter fun l => l.cls = c) = [] := by
  rw [List.filter_eq_nil_iff]
  intro x hx
  have := hord x hx
  simp only [decide_eq_true_eq]
  intro e; rw [e] at this; omega

theorem matches_acquire (lk : Locks) (h : List Lock) (c : LockClass) (i : Str) (hm : Matches lk h)
    (hord : ∀ x ∈ h, x.cls.rank < c.rank) :
    i ∉ lk.get c ∧ Matches (lk.put c (lk.get c ++ [i])) (h ++ [⟨c, i⟩]) := by
  have hc : lk.get c = [] := by rw [hm c, filter_cls_empty h c hord]; rfl
  refine ⟨by rw [hc]; simp, ?_⟩
  intro d
  rw [locks_get_put]
  by_cases e : d = c
  · subst e
    simp only [if_true, hc, List.nil_append, List.filter_append, filter_cls_empty h d hord]
    simp
  · simp only [e, if_false, List.filter_append]
    rw [hm d]
    have : ([(⟨c, i⟩ : Lock)].filter fun l => l.cls = d) = [] := by
      simp [List.filter_cons]; intro e2; exact e e2.symm
    rw [this]; simp

/-- locks of pairwise different classes (what the class order gives) -/
def ClassDistinct (h : List Lock) : Prop := h.Pairwise fun a b => a.cls ≠ b.cls

theorem filter_erase_other (h : List Lock) (c d : LockClass) (i : Str) (e : ¬ d = c) :
    ((h.erase ⟨c, i⟩).filter fun l => l.cls = d) = (h.filter fun l => l.cls = d) := by
  induction h with
  | nil => rfl
  | cons a r ih =>
    by_cases ea : a = ⟨c, i⟩
    · subst ea
      simp only [List.erase_cons_head, List.filter_cons]
      have : ¬ c = d := fun e2 => e e2.symm
      simp [this]
    · rw [List.erase_cons_tail (by simpa using ea)]
      simp only [List.filter_cons, ih]

theorem classDistinct_nodup (h : List Lock) (hd : ClassDistinct h) : h.Nodup := by
  apply List.Pairwise.imp _ hd
  intro a b hab e2; exact hab (by rw [e2])

theorem class_unique (h : List Lock) (hd : ClassDistinct h) (a b : Lock) (ha : a ∈ h) (hb : b ∈ h)
    (hc : a.cls = b.cls) : a = b := by
  induction h with
  | nil => cases ha
  | cons x r ih =>
    have hd' := List.pairwise_cons.mp hd
    rcases List.mem_cons.mp ha with rfl | ha' <;> rcases List.mem_cons.mp hb with rfl | hb'
    · rfl
    · exact absurd hc (hd'.1 b hb')
    · exact absurd hc.symm (hd'.1 a ha')
    · exact ih hd'.2 ha' hb'

theorem filter_erase_same (h : List Lock) (c : LockClass) (i : Str) (hd : ClassDistinct h)
    (hin : (⟨c, i⟩ : Lock) ∈ h) : ((h.erase ⟨c, i⟩).filter fun l => l.cls = c) = [] := by
  rw [List.filter_eq_nil_iff]
  intro x hx
  simp only [decide_eq_true_eq]
  intro hc
  have hxh : x ∈ h := List.mem_of_mem_erase hx
  have : x = ⟨c, i⟩ := class_unique h hd x ⟨c, i⟩ hxh hin hc
  subst this
  exact (List.Nodup.not_mem_erase (classDistinct_nodup h hd)) hx

theorem filter_cls_singleton (h : List Lock) (c : LockClass) (i : Str) (hd : ClassDistinct h)
    (hin : (⟨c, i⟩ : Lock) ∈ h) : (h.filter fun l => l.cls = c) = [⟨c, i⟩] := by
  induction h with
  | nil => cases hin
  | cons a r ih =>
    have hd' := List.pairwise_cons.mp hd
    rcases List.mem_cons.mp hin with e | hr
    · subst e
      simp only [List.filter_cons, decide_true, if_true]
      congr 1
      rw [List.filter_eq_nil_iff]
      intro x hx
      have := hd'.1 x hx
      simp only [decide_eq_true_eq]
      exact fun e => this e.symm
    · have hne : a.cls ≠ c := hd'.1 _ hr
      simp only [List.filter_cons, hne, decide_false, Bool.false_eq_true, if_false]
      exact ih hd'.2 hr

theorem matches_release (lk : Locks) (h : List Lock) (c : LockClass) (i : Str) (hm : Matches lk h)
    (hd : ClassDistinct h) (hin : (⟨c, i⟩ : Lock) ∈ h) :
    i ∈ lk.get c ∧ Matches (lk.put c ((lk.get c).erase i)) (h.erase ⟨c, i⟩) ∧ ClassDistinct (h.erase ⟨c, i⟩) := by
  have hget : lk.get c = [i] := by rw [hm c, filter_cls_singleton h c i hd hin]; rfl
  refine ⟨by rw [hget]; simp, ?_, List.Pairwise.sublist (List.erase_sublist) hd⟩
  intro d
  rw [locks_get_put]
  by_cases e : d = c
  · subst e
    simp only [if_true, hget, List.erase_cons_head, filter_erase_same h d i hd hin]
    rfl
  · simp only [e, if_false, filter_erase_other h c d i e]
    exact hm d

theorem classDistinct_append (h : List Lock) (c : LockClass) (i : Str) (hd : ClassDistinct h)
    (hord : ∀ x ∈ h, x.cls.rank < c.rank) : ClassDistinct (h ++ [⟨c, i⟩]) := by
  unfold ClassDistinct
  rw [List.pairwise_append]
  refine ⟨hd, by simp, ?_⟩
  intro a ha b hb
  simp only [List.mem_singleton] at hb
  subst hb
  intro e
  have := hord a ha
  rw [e] at this
  simp at this

end HS

namespace HS

theorem respond_lk_other (w : World) (e : Ev) (hne : ∀ c i, e ≠ .acquire c i ∧ e ≠ .release c i) :
    (respond w e).2.lk = w.lk := by
  rcases respond_lk w e with h | ⟨c, i, he, _⟩ | ⟨c, i, he, _⟩
  · exact h
  · exact ((hne c i).1 he).elim
  · exact ((hne c i).2 he).elim

/-- a disciplined program run sequentially: never blocked, ends holding exactly
    what the postcondition says — whatever the fault plan -/
theorem Prog.disc_run {α : Type} (post : List Lock → α → Prop) (m : Prog α) :
    ∀ (h : List Lock) (w : World), m.Disc post h → Matches w.lk h → ClassDistinct h →
      ∃ h', Matches (m.run w).2.lk h' ∧ ClassDistinct h' ∧ post h' (m.run w).1 := by
  induction m with
  | ret a => intro h w hd hm hc; exact ⟨h, hm, hc, hd⟩
  | op e k ih =>
    intro h w hd hm hc
    cases e with
    | acquire c i =>
      simp only [Prog.Disc] at hd
      obtain ⟨hnot, hm'⟩ := matches_acquire w.lk h c i hm hd.1
      simp only [Prog.run, respond_acquire, if_neg hnot]
      exact ih _ _ _ hd.2 hm' (classDistinct_append h c i hc hd.1)
    | release c i =>
      simp only [Prog.Disc] at hd
      obtain ⟨hin, hm', hc'⟩ := matches_release w.lk h c i hm hc hd.1
      simp only [Prog.run, respond_release, if_pos hin]
      exact ih _ _ _ hd.2 hm' hc'
    | _ =>
      simp only [Prog.Disc] at hd; simp only [Prog.run]
      exact ih _ _ _ (hd _) (by rw [respond_lk_other w _ (by intro c i; constructor <;> simp)]; exact hm) hc

end HS
