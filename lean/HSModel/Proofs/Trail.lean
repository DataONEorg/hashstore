/-
  Trail — the stores a sequential run passes through (one per file-system
  effect): what a crash at any point leaves on disk. Helper lemmas.
-/
import HSModel.Proofs.RunInv
import HSModel.Proofs.MetaRun
namespace HS
namespace Prog
variable {α β : Type}

/-- the store after every file-system effect of the run, in order -/
def trail : Prog α → World → List Store
  | .ret _, _ => []
  | .op e k, w =>
    match e with
    | .eff _ => (respond w e).2.st :: trail (k (respond w e).1) (respond w e).2
    | _ => trail (k (respond w e).1) (respond w e).2

/-- the store a crash leaves is the initial one or one of the trail -/
theorem crashAt_in_trail (m : Prog α) (n : Nat) (w : World) :
    (crashAt n m w).2.st = w.st ∨ (crashAt n m w).2.st ∈ trail m w := by
  induction m generalizing n w with
  | ret a => left; simp [crashAt]
  | op e k ih =>
    cases e with
    | eff x =>
      cases n with
      | zero => left; simp [crashAt]
      | succ n =>
        simp only [crashAt, trail]
        rcases ih _ n (respond w (.eff x)).2 with h | h
        · right; rw [h]; exact List.mem_cons_self ..
        · right; exact List.mem_cons_of_mem _ h
    | _ =>
      simp only [crashAt, trail]
      rcases ih _ n (respond w _).2 with h | h
      · left; rw [h]
        rcases respond_store_cases w _ with h0 | ⟨x, _, hx, _⟩
        · exact h0
        · cases hx
      · right; exact h

theorem trail_bind (m : Prog α) (f : α → Prog β) (w : World) :
    trail (Prog.bind m f) w = trail m w ++ trail (f (m.run w).1) (m.run w).2 := by
  induction m generalizing w with
  | ret a => rfl
  | op e k ih =>
    cases e <;> simp only [Prog.bind, trail, run, ih, List.cons_append]

/-- a store invariant carried by a static discipline holds all along the trail -/
theorem trail_inv {P : Ev → Prop} {J : Store → Prop} (m : Prog α) (hm : m.AllEv P)
    (hp : Preserved P (fun w => J w.st)) (w : World) (hw : J w.st) : ∀ s ∈ trail m w, J s := by
  induction m generalizing w with
  | ret a => intro s hs; cases hs
  | op e k ih =>
    have hstep : J (respond w e).2.st := hp w e hm.1 hw
    cases e <;> simp only [trail] <;> first
      | (intro s hs
         rcases List.mem_cons.1 hs with rfl | hs
         · exact hstep
         · exact ih _ (hm.2 _) _ hstep s hs)
      | exact ih _ (hm.2 _) _ hstep

end Prog
end HS
