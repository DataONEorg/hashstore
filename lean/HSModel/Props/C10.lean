/-
  C10 — A crash harms nothing else and never wedges the interrupted pid.
  Proved here (`_partial`, see the end of the file for what is not):
  for every call addressed to pid p, every other pid q whose hash differs from
  p's keeps its pid reference and all its metadata documents — in the final
  state, at every crash point, under every fault plan; calls without a pid
  touch no pid reference and no document at all. Objects stay well addressed at
  every crash point (C09). For the five calls of the property's quantifier, run
  sequentially from a store whose indexes agree, every other pid also keeps its
  place on its (possibly shared) cid reference list and its object at every
  crash point (`others_fully_kept_at_every_crash_point`), and the interrupted
  pid is never wedged: from the store a crash leaves at any point,
  `delete_object(pid)` returns normally or reports the pid unknown, then
  `store_object(pid, data)` returns normally, then `retrieve_object(pid)` returns
  the data (`never_wedged_after_a_crash`; this rests on `recover_any`, which holds
  from *any* store whose list texts are empty or newline-terminated — no
  consistency assumed; `…_with_validation`: the recovery store may carry any accepted
  validation arguments that the data meets). Not proved: the same under a fault plan
  that stays active during the recovery.
-/
import HSModel.Proofs.Shape
import HSModel.Proofs.RunInv
import HSModel.Proofs.AbsLemmas
import HSModel.Proofs.TrailStore
import HSModel.Proofs.TrailNl
import HSModel.Proofs.ConcInv
namespace HS.C10
variable (cfg : Config) (o : Oracle)

/-- the part of the store that belongs to the pid whose hash is `K` -/
def SameFor (K : Str) (s₀ s : Store) : Prop :=
  s.pidRefs.get K = s₀.pidRefs.get K ∧ ∀ n, s.mdocs.get (K, n) = s₀.mdocs.get (K, n)

/-- `K` is not the key of the call's pid, nor its deletion marker -/
def Foreign (p : Option Str) (K : Str) : Prop :=
  ∀ q, p = some q → K ≠ o.hId q ∧ K ≠ o.hId q ++ deleteSuffix

theorem frame_step {p : Option Str} {K : Str} (hK : Foreign o p K) {s₀ s : Store} {x : Eff}
    (hx : Shape cfg o p (.eff x)) (hs : SameFor K s₀ s) : SameFor K s₀ (s.after x) := by
  refine ⟨.trans ?_ hs.1, fun n => .trans ?_ (hs.2 n)⟩
  · dsimp only [Store.after]
    split
    · obtain ⟨q, hq, rfl⟩ := hx
      exact FMap.get_set_ne _ _ (hK q hq).1.symm
    · obtain ⟨q, hq, rfl⟩ := hx
      exact FMap.get_rename_ne _ (hK q hq).1.symm (hK q hq).2.symm
    · obtain ⟨q, hq, rfl⟩ := hx
      exact FMap.get_del_ne _ (hK q hq).2.symm
    · rfl
  · have hne {d n' : Str} (hd : ∃ q, p = some q ∧ d = o.hId q) : (d, n') ≠ (K, n) := by
      obtain ⟨q, hq, rfl⟩ := hd
      exact fun e => (hK q hq).1 (Prod.mk.inj e).1.symm
    dsimp only [Store.after]
    split
    · exact FMap.get_set_ne _ _ (hne (let ⟨q, hq, hd, _⟩ := hx; ⟨q, hq, hd⟩))
    · exact FMap.get_rename_ne _ (hne hx) (hne hx)
    · exact FMap.get_del_ne _ (hne hx)
    · rfl

theorem frame_preserved (p : Option Str) (K : Str) (hK : Foreign o p K) (s₀ : Store) :
    Prog.Preserved (Shape cfg o p) (fun w => SameFor K s₀ w.st) :=
  preserved_of_store fun _ _ => frame_step cfg o hK

/-- two equally long hashes: one is never the other plus the marker suffix -/
theorem foreign_of_ne (p q : Str) (hne : o.hId q ≠ o.hId p) (hlen : (o.hId q).length = (o.hId p).length) :
    Foreign o (some p) (o.hId q) := by
  intro r hr
  cases hr
  refine ⟨hne, ?_⟩
  intro e
  have := congrArg List.length e
  simp [deleteSuffix] at this
  omega

/-- If the process dies at any point inside a call addressed to pid p (or the
    call runs to completion, or an injected fault strikes), every other pid q —
    distinct hash — has exactly the pid reference and the metadata documents it
    had before. -/
theorem other_pids_untouched_at_every_crash_point (c : Call) (p q : Str) (hc : c.pidStr = some p)
    (hne : o.hId q ≠ o.hId p) (hlen : (o.hId q).length = (o.hId p).length) (n : Nat) (w : World) :
    SameFor (o.hId q) w.st (Prog.crashAt n (c.prog cfg o) w).2.st := by
  have hs := call_shape cfg o c
  rw [hc] at hs
  exact Prog.crashAt_inv (I := fun w' => SameFor (o.hId q) w.st w'.st) _ hs
    (frame_preserved cfg o _ _ (foreign_of_ne o p q hne hlen) w.st) n w ⟨rfl, fun _ => rfl⟩

theorem other_pids_untouched_after (c : Call) (p q : Str) (hc : c.pidStr = some p)
    (hne : o.hId q ≠ o.hId p) (hlen : (o.hId q).length = (o.hId p).length) (w : World) :
    SameFor (o.hId q) w.st ((c.prog cfg o).run w).2.st := by
  have hs := call_shape cfg o c
  rw [hc] at hs
  exact Prog.run_inv (I := fun w' => SameFor (o.hId q) w.st w'.st) _ hs
    (frame_preserved cfg o _ _ (foreign_of_ne o p q hne hlen) w.st) w ⟨rfl, fun _ => rfl⟩

/-- calls that carry no pid (store without pid, delete_if_invalid_object) never
    touch any pid reference or metadata document, at any crash point -/
theorem pidless_calls_touch_no_pid (c : Call) (hc : c.pidStr = none) (K : Str) (n : Nat) (w : World) :
    SameFor K w.st (Prog.crashAt n (c.prog cfg o) w).2.st := by
  have hs := call_shape cfg o c
  rw [hc] at hs
  exact Prog.crashAt_inv (I := fun w' => SameFor K w.st w'.st) _ hs
    (frame_preserved cfg o _ _ (by intro q hq; cases hq) w.st) n w ⟨rfl, fun _ => rfl⟩

/-- **Other pids are untouched under every interleaving.** Any number of threads running any calls
    none of which is addressed to pid q (each call has no pid, or a pid whose hash differs from
    q's and has the same length), from any world (any fault plan, any lock lists), under every
    schedule and at every granularity of interleaving: after every step — hence also if the process
    dies there — q has exactly the pid reference and the metadata documents it had at the start. -/
theorem other_pids_untouched_under_every_interleaving (calls : List Call) (q : Str)
    (hc : ∀ c ∈ calls, Foreign o c.pidStr (o.hId q)) (w0 : World) (fuel : Nat) (sched : List Nat) (n : Nat) :
    SameFor (o.hId q) w0.st
      (runSchedule fuel { w := w0, ts := calls.map (fun c => TState.fresh (c.prog cfg o)) } sched n).1.w.st := by
  let P : Ev → Prop := fun e => ∃ p, Foreign o p (o.hId q) ∧ Shape cfg o p e
  have hpres : Prog.Preserved P (fun w => SameFor (o.hId q) w0.st w.st) := by
    intro w e hp hw
    obtain ⟨p, hK, hs⟩ := hp
    exact frame_preserved cfg o p _ hK w0.st w e hs hw
  have h0 : SafeConf P (fun _ _ => True) (fun w => SameFor (o.hId q) w0.st w.st) (fun _ _ => True)
      { w := w0, ts := calls.map (fun c => TState.fresh (c.prog cfg o)) } := by
    refine ⟨⟨rfl, fun _ => rfl⟩, ?_⟩
    intro i t hi
    simp only at hi
    rw [List.getElem?_map] at hi
    cases hci : calls[i]? with
    | none => rw [hci] at hi; cases hi
    | some c =>
      rw [hci] at hi; cases hi
      apply Prog.safe_of_allEv
      exact Prog.allEv_mono _ (fun e he => ⟨c.pidStr, hc c (List.mem_of_getElem? hci), he⟩) (call_shape cfg o c)
  exact (safe_schedule hpres (fun _ _ _ => trivial) _ fuel sched _ n h0).1

/-- the hypothesis in the usual form: every call has no pid or a pid with another hash -/
theorem foreign_of_calls (calls : List Call) (q : Str)
    (h : ∀ c ∈ calls, ∀ p, c.pidStr = some p → o.hId q ≠ o.hId p ∧ (o.hId q).length = (o.hId p).length) :
    ∀ c ∈ calls, Foreign o c.pidStr (o.hId q) := by
  intro c hc
  cases hp : c.pidStr with
  | none => intro r hr; cases hr
  | some p => exact foreign_of_ne o p q (h c hc p hp).1 (h c hc p hp).2

/-- the full statement of C10 also demands: (i) q stays a member of every shared
    cid reference list and its object stays in place at every crash point;
    (ii) from every crash state `delete_object p; store_object p d` succeeds.
    These are checked on the real code at every crash point by this property's
    correspondence run; for the model they are stated here and not proved. -/
def FullStatement : Prop :=
  ∀ (c : Call) (p : Str) (w : World) (n : Nat) (d : Tok), c.pidStr = some p →
    let w' := (Prog.crashAt n (c.prog cfg o) w).2
    let w'' := ((deleteObject cfg o (.str p)).run { w' with lk := {} }).2
    ∃ m, ((storeObject cfg o (.str p) (.ok d) .none .none .none .none).run w'').1 = .ok (.objMeta m)

example : Foreign { hId := fun s => s, dig := fun _ _ => [], size := fun _ => 0 } (some "ab".toList) "cd".toList := by
  intro q hq
  cases hq
  constructor <;> decide

/-- **every crash point, shared lists included**: for store_object, tag_object,
    delete_object, store_metadata and delete_metadata with any arguments, run from
    a store whose two indexes agree, the store a crash leaves at *any* point
    still has every other pid's reference, still lists that pid in its cid's
    reference list (also when the list is shared with the interrupted pid and is
    being rewritten), and still has the object it names -/
theorem others_fully_kept_at_every_crash_point (c : Call) (st : Store) (log : List Eff) (q : Str) (n : Nat)
    (h : RefsExact o st) (ho : GoodOracle o) (hq : ∀ p, c.pidStr = some p → p ≠ q)
    (hc : (∃ a b d e f g, c = .storeObject a b d e f g) ∨ (∃ a b, c = .tagObject a b) ∨ (∃ a, c = .deleteObject a) ∨
          (∃ a b d, c = .storeMetadata a b d) ∨ (∃ a b, c = .deleteMetadata a b)) :
    OtherKept o q st (Prog.crashAt n (c.prog cfg o) (calm st log)).2.st := by
  rcases Prog.crashAt_in_trail (c.prog cfg o) n (calm st log) with h0 | h0
  · rw [h0]; exact otherKept_refl o q st
  · exact trail_kept cfg o c st log q h ho hq hc _ h0

/-- what `OtherKept` says, spelled out -/
theorem otherKept_means (q c : Str) (s s' : Store) (hk : OtherKept o q s s')
    (hb : s.pidRefs.get (o.hId q) = some c) :
    s'.pidRefs.get (o.hId q) = some c ∧
    (∀ t, s.cidRefs.get c = some t → inRefs q t = true → ∃ t', s'.cidRefs.get c = some t' ∧ inRefs q t' = true) ∧
    (∀ x, s.objs.get c = some x → s'.objs.get c = some x) := hk c hb

/-- **recovery from any store** (no consistency assumed): see `Proofs/Recover.lean` -/
theorem recovery_from_any_store (S : Store) (log : List Eff) (p : Str) (t' : Tok) (hp : checkStringOk p = true)
    (hok : OkDigests o) (hnl : AllNl S.cidRefs)
    (hfree : S.objs.get (o.dig cfg.alg t') = none ∨ S.objs.get (o.dig cfg.alg t') = some t') :
    ∃ r1 w1 m w2, (deleteObject cfg o (.str p)).run (calm S log) = (r1, w1) ∧
      (r1 = .ok .unit ∨ r1 = .error .pidRefsDoesNotExist) ∧
      (storeObject cfg o (.str p) (.ok t') .none .none .none .none).run w1 = (.ok (.objMeta m), w2) ∧
      ((retrieveObject cfg o (.str p)).run w2).1 = .ok (.content t') :=
  recover_any cfg o S log p t' hp hok hnl hfree

/-- **never wedged**: take any of store_object, tag_object, delete_object,
    store_metadata, delete_metadata with any arguments, started from a store
    whose indexes agree, and let the process die at any point `n`. On the store
    that is left (locks gone, as after a restart), for any pid `p` — the
    interrupted one in particular — and any data whose address holds no foreign
    content: `delete_object(p)` returns normally or reports `p` unknown,
    `store_object(p, data)` then returns normally, and `retrieve_object(p)`
    returns exactly the data -/
theorem never_wedged_after_a_crash (c : Call) (st : Store) (log log' : List Eff) (n : Nat) (p : Str) (t' : Tok)
    (h : RefsExact o st) (ho : GoodOracle o) (hp : checkStringOk p = true)
    (hc : (∃ a b d e f g, c = .storeObject a b d e f g) ∨ (∃ a b, c = .tagObject a b) ∨ (∃ a, c = .deleteObject a) ∨
          (∃ a b d, c = .storeMetadata a b d) ∨ (∃ a b, c = .deleteMetadata a b))
    (hfree : let S := (Prog.crashAt n (c.prog cfg o) (calm st log)).2.st
             S.objs.get (o.dig cfg.alg t') = none ∨ S.objs.get (o.dig cfg.alg t') = some t') :
    let S := (Prog.crashAt n (c.prog cfg o) (calm st log)).2.st
    ∃ r1 w1 m w2, (deleteObject cfg o (.str p)).run (calm S log') = (r1, w1) ∧
      (r1 = .ok .unit ∨ r1 = .error .pidRefsDoesNotExist) ∧
      (storeObject cfg o (.str p) (.ok t') .none .none .none .none).run w1 = (.ok (.objMeta m), w2) ∧
      ((retrieveObject cfg o (.str p)).run w2).1 = .ok (.content t') := by
  intro S
  have hnl : AllNl S.cidRefs := by
    rcases Prog.crashAt_in_trail (c.prog cfg o) n (calm st log) with h0 | h0
    · show AllNl (Prog.crashAt n (c.prog cfg o) (calm st log)).2.st.cidRefs
      rw [h0]; exact allNl_of_exact o h
    · exact trail_nl cfg o c st log h ho hc _ h0
  exact recover_any cfg o S log' p t' hp ho.okDigests hnl hfree

/-- … and with validation arguments on the recovery store: whatever additional
    algorithm, checksum, checksum algorithm and expected size it is given, as long
    as they pass the argument checks and the verdict on the data is "valid" -/
theorem recovery_from_any_store_with_validation (S : Store) (log : List Eff) (p : Str) (t' : Tok)
    (add cks ca : SArg) (sz : IArg) (add' cs' : Option Str) (hp : checkStringOk p = true) (hok : OkDigests o)
    (hint : checkInteger sz = .ok ()) (hac : checkArgAlgorithmsAndChecksum cfg.alg add cks ca = .ok (add', cs'))
    (hv : (verdict ((refineAlgorithmList defaultAlgos add' cs').map fun a => (a, o.dig a t')) (fun a => o.dig a t')
      (o.size t') sz (strArg cks) cs').exc = none)
    (hnl : AllNl S.cidRefs)
    (hfree : S.objs.get (o.dig cfg.alg t') = none ∨ S.objs.get (o.dig cfg.alg t') = some t') :
    ∃ r1 w1 m w2, (deleteObject cfg o (.str p)).run (calm S log) = (r1, w1) ∧
      (r1 = .ok .unit ∨ r1 = .error .pidRefsDoesNotExist) ∧
      (storeObject cfg o (.str p) (.ok t') add cks ca sz).run w1 = (.ok (.objMeta m), w2) ∧
      ((retrieveObject cfg o (.str p)).run w2).1 = .ok (.content t') :=
  recover_any_args cfg o S log p t' add cks ca sz add' cs' hp hok hint hac hv hnl hfree

/-- **never wedged, validated recovery**: as `never_wedged_after_a_crash`, the
    recovery store carrying any accepted validation arguments that the data meets -/
theorem never_wedged_after_a_crash_with_validation (c : Call) (st : Store) (log log' : List Eff) (n : Nat) (p : Str)
    (t' : Tok) (add cks ca : SArg) (sz : IArg) (add' cs' : Option Str)
    (h : RefsExact o st) (ho : GoodOracle o) (hp : checkStringOk p = true)
    (hc : (∃ a b d e f g, c = .storeObject a b d e f g) ∨ (∃ a b, c = .tagObject a b) ∨ (∃ a, c = .deleteObject a) ∨
          (∃ a b d, c = .storeMetadata a b d) ∨ (∃ a b, c = .deleteMetadata a b))
    (hint : checkInteger sz = .ok ()) (hac : checkArgAlgorithmsAndChecksum cfg.alg add cks ca = .ok (add', cs'))
    (hv : (verdict ((refineAlgorithmList defaultAlgos add' cs').map fun a => (a, o.dig a t')) (fun a => o.dig a t')
      (o.size t') sz (strArg cks) cs').exc = none)
    (hfree : let S := (Prog.crashAt n (c.prog cfg o) (calm st log)).2.st
             S.objs.get (o.dig cfg.alg t') = none ∨ S.objs.get (o.dig cfg.alg t') = some t') :
    let S := (Prog.crashAt n (c.prog cfg o) (calm st log)).2.st
    ∃ r1 w1 m w2, (deleteObject cfg o (.str p)).run (calm S log') = (r1, w1) ∧
      (r1 = .ok .unit ∨ r1 = .error .pidRefsDoesNotExist) ∧
      (storeObject cfg o (.str p) (.ok t') add cks ca sz).run w1 = (.ok (.objMeta m), w2) ∧
      ((retrieveObject cfg o (.str p)).run w2).1 = .ok (.content t') := by
  intro S
  have hnl : AllNl S.cidRefs := by
    rcases Prog.crashAt_in_trail (c.prog cfg o) n (calm st log) with h0 | h0
    · show AllNl (Prog.crashAt n (c.prog cfg o) (calm st log)).2.st.cidRefs
      rw [h0]; exact allNl_of_exact o h
    · exact trail_nl cfg o c st log h ho hc _ h0
  exact recover_any_args cfg o S log' p t' add cks ca sz add' cs' hp ho.okDigests hint hac hv hnl hfree

/-- the argument hypothesis is satisfiable (a test on literals): an additional md5, an
    upper-case checksum with its algorithm in DataONE spelling -/
example : checkArgAlgorithmsAndChecksum "sha256".toList (.str "MD5".toList) (.str "AAA0".toList) (.str "SHA-384".toList)
    = .ok (some "md5".toList, some "sha384".toList) := by decide

end HS.C10
