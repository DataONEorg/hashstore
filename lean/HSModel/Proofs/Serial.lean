/-
  Serial — threads whose whole effect lies between the acquire and the final
  release of one common identifier run one after the other under every schedule
  of the interleaving semantics: the configuration reached when all have
  returned is the one a sequential run reaches (some order), results included.
  Helper lemmas; the property statements are in Props/C12.lean and Props/C07.lean.
-/
import HSModel.Proofs.ConcLemmas
import HSModel.Proofs.AllEv
import HSModel.Proofs.FaultMeta
import HSModel.Proofs.RefsSafe
import HSModel.Proofs.Disc
namespace HS

/-- the discipline every call satisfies: it returns holding nothing -/
abbrev Post0 : List Lock → Except Exc Val → Prop := fun h _ => h = []


/-! ### static shape of a bracketed program -/

def Prog.Quiet {α : Type} : Prog α → Prop
  | .ret _ => True
  | .op _ _ => False

/-- neither the acquire nor the release of `(c, i)` -/
def Avoid (c : LockClass) (i : Str) (e : Ev) : Prop := e ≠ .acquire c i ∧ e ≠ .release c i

/-- on every path (whatever the answers) the program issues primitives other than
    acquire / release of `(c, i)`, then the release of `(c, i)`, then returns -/
def Prog.Fin {α : Type} (c : LockClass) (i : Str) : Prog α → Prop
  | .ret _ => False
  | .op e k => (e = .release c i ∧ ∀ r, (k r).Quiet) ∨ (Avoid c i e ∧ ∀ r, Prog.Fin c i (k r))

/-- a thread program: returns at once (rejected arguments), or acquires `(c, i)`
    first thing and, once it has it, is `Fin` -/
def Prog.Bracketed {α : Type} (c : LockClass) (i : Str) : Prog α → Prop
  | .ret _ => True
  | .op e k => e = .acquire c i ∧ Prog.Fin c i (k .unit)

/-- the same shape, read as the lock discipline `Prog.Disc` reads programs: an
    acquire continues only when granted, a release of a held identifier succeeds -/
def Prog.FinU {α : Type} (c : LockClass) (i : Str) : Prog α → Prop
  | .ret _ => False
  | .op (.acquire c' i') k => (⟨c', i'⟩ : Lock) ≠ ⟨c, i⟩ ∧ Prog.FinU c i (k .unit)
  | .op (.release c' i') k =>
      ((⟨c', i'⟩ : Lock) = ⟨c, i⟩ ∧ (k .unit).Quiet) ∨ ((⟨c', i'⟩ : Lock) ≠ ⟨c, i⟩ ∧ Prog.FinU c i (k .unit))
  | .op (.isFile _) k => ∀ r, Prog.FinU c i (k r)
  | .op (.readRef _) k => ∀ r, Prog.FinU c i (k r)
  | .op (.readOpen _) k => ∀ r, Prog.FinU c i (k r)
  | .op (.readObj _) k => ∀ r, Prog.FinU c i (k r)
  | .op (.readDoc _ _) k => ∀ r, Prog.FinU c i (k r)
  | .op (.sizeIsZero _) k => ∀ r, Prog.FinU c i (k r)
  | .op (.listDocs _) k => ∀ r, Prog.FinU c i (k r)
  | .op (.openTmpWrite _) k => ∀ r, Prog.FinU c i (k r)
  | .op (.eff _) k => ∀ r, Prog.FinU c i (k r)
  | .op (.inProgress _) k => ∀ r, Prog.FinU c i (k r)
  | .op (.isLocked _ _) k => ∀ r, Prog.FinU c i (k r)

/-- a thread program under the lock discipline: returns at once, or acquires
    `(c, i)` first thing and, once it has it, is `FinU` -/
def Prog.BracketedU {α : Type} (c : LockClass) (i : Str) : Prog α → Prop
  | .ret _ => True
  | .op e k => e = .acquire c i ∧ Prog.FinU c i (k .unit)

namespace Prog
variable {α β : Type} {c : LockClass} {i : Str}

theorem finU_of_fin (m : Prog α) (hm : m.Fin c i) : m.FinU c i := by
  induction m with
  | ret a => exact hm.elim
  | op e k ih =>
    rcases hm with ⟨he, hq⟩ | ⟨ha, hk⟩
    · subst he
      exact Or.inl ⟨rfl, hq _⟩
    · cases e <;> simp only [Prog.FinU]
      case acquire c' i' =>
        refine ⟨?_, ih _ (hk _)⟩
        intro hl; cases hl; exact ha.1 rfl
      case release c' i' =>
        refine Or.inr ⟨?_, ih _ (hk _)⟩
        intro hl; cases hl; exact ha.2 rfl
      all_goals exact fun r => ih r (hk r)

theorem bracketedU_of_bracketed (m : Prog α) (hm : m.Bracketed c i) : m.BracketedU c i := by
  cases m with
  | ret a => trivial
  | op e k => exact ⟨hm.1, finU_of_fin _ hm.2⟩

theorem finU_bind_avoid (m : Prog α) (f : α → Prog β) (hm : m.AllEv (Avoid c i)) (hf : ∀ a, (f a).FinU c i) :
    (Prog.bind m f).FinU c i := by
  induction m with
  | ret a => exact hf a
  | op e k ih =>
    cases e <;> simp only [Prog.bind, Prog.FinU]
    case acquire c' i' =>
      refine ⟨?_, ih _ (hm.2 _)⟩
      intro hl; cases hl; exact hm.1.1 rfl
    case release c' i' =>
      refine Or.inr ⟨?_, ih _ (hm.2 _)⟩
      intro hl; cases hl; exact hm.1.2 rfl
    all_goals exact fun r => ih r (hm.2 r)

theorem finU_bind_quiet (m : Prog α) (f : α → Prog β) (hm : m.FinU c i) (hf : ∀ a, (f a).Quiet) :
    (Prog.bind m f).FinU c i := by
  induction m with
  | ret a => exact hm.elim
  | op e k ih =>
    cases e <;> simp only [Prog.bind, Prog.FinU] at hm ⊢
    case acquire c' i' => exact ⟨hm.1, ih _ hm.2⟩
    case release c' i' =>
      rcases hm with ⟨h1, h2⟩ | ⟨h1, h2⟩
      · left
        refine ⟨h1, ?_⟩
        cases hk : k .unit with
        | ret a => exact hf a
        | op e' k' => rw [hk] at h2; exact h2.elim
      · exact Or.inr ⟨h1, ih _ h2⟩
    all_goals exact fun r => ih r (hm r)

theorem quiet_bind (m : Prog α) (f : α → Prog β) (hm : m.Quiet) (hf : ∀ a, (f a).Quiet) : (Prog.bind m f).Quiet := by
  cases m with
  | ret a => exact hf a
  | op e k => exact hm.elim

theorem fin_bind_avoid (m : Prog α) (f : α → Prog β) (hm : m.AllEv (Avoid c i)) (hf : ∀ a, (f a).Fin c i) :
    (Prog.bind m f).Fin c i := by
  induction m with
  | ret a => exact hf a
  | op e k ih => exact Or.inr ⟨hm.1, fun r => ih r (hm.2 r)⟩

theorem fin_bind_quiet (m : Prog α) (f : α → Prog β) (hm : m.Fin c i) (hf : ∀ a, (f a).Quiet) :
    (Prog.bind m f).Fin c i := by
  induction m with
  | ret a => exact hm.elim
  | op e k ih =>
    rcases hm with ⟨he, hq⟩ | ⟨ha, hk⟩
    · exact Or.inl ⟨he, fun r => quiet_bind _ _ (hq r) hf⟩
    · exact Or.inr ⟨ha, fun r => ih r (hk r)⟩
end Prog

theorem release_fin (c : LockClass) (i : Str) : Prog.Fin c i (release c i : Prog (Except Exc Unit)) :=
  Or.inl ⟨rfl, fun _ => trivial⟩

/-- `try m finally release(c, i)` followed by nothing but a return -/
theorem withFinally_fin {α : Type} (c : LockClass) (i : Str) (m : PE α) (hm : m.AllEv (Avoid c i)) :
    Prog.Fin c i (PE.withFinally m (release c i) : Prog (Except Exc α)) := by
  unfold PE.withFinally
  apply Prog.fin_bind_avoid _ _ hm
  intro r
  apply Prog.fin_bind_quiet _ _ (release_fin c i)
  intro f
  cases f <;> trivial


/-! ### the identifier's entry in its lock list -/

theorem Locks.get_put_same (l : Locks) (c : LockClass) (v : List Str) : (l.put c v).get c = v := by
  cases c <;> rfl

theorem Locks.get_put_ne (l : Locks) {c c' : LockClass} (v : List Str) (h : c' ≠ c) : (l.put c' v).get c = l.get c := by
  cases c <;> cases c' <;> first | rfl | exact (h rfl).elim

/-- how often `i` stands in the list of class `c` -/
def World.cnt (w : World) (c : LockClass) (i : Str) : Nat := (w.lk.get c).count i

theorem respond_cnt_avoid (w : World) (c : LockClass) (i : Str) (e : Ev) (h : Avoid c i e) :
    (respond w e).2.cnt c i = w.cnt c i := by
  unfold World.cnt
  rcases respond_lk w e with h1 | ⟨c', i', he, h1⟩ | ⟨c', i', he, h1⟩
  · rw [h1]
  · rw [h1]
    by_cases hc : c' = c
    · subst hc
      have hi : i' ≠ i := by intro e'; subst e'; exact h.1 he
      rw [Locks.get_put_same, List.count_append]
      simp [hi]
    · rw [Locks.get_put_ne _ _ hc]
  · rw [h1]
    by_cases hc : c' = c
    · subst hc
      have hi : i' ≠ i := by intro e'; subst e'; exact h.2 he
      rw [Locks.get_put_same]
      exact List.count_erase_of_ne (fun e' => hi e'.symm)
    · rw [Locks.get_put_ne _ _ hc]

theorem respond_acquire_cnt (w : World) (c : LockClass) (i : Str) (h : w.cnt c i = 0) :
    (respond w (.acquire c i)).1 = .unit ∧ (respond w (.acquire c i)).2.cnt c i = 1 := by
  have hn : i ∉ w.lk.get c := List.count_eq_zero.mp h
  obtain ⟨w1, hr, _, hl⟩ := respond_acquire_free w c i hn
  rw [hr]
  refine ⟨rfl, ?_⟩
  show (w1.lk.get c).count i = 1
  rw [hl, Locks.get_put_same, List.count_append]
  unfold World.cnt at h
  simp [h]

theorem respond_release_cnt (w : World) (c : LockClass) (i : Str) (h : w.cnt c i = 1) :
    (respond w (.release c i)).1 = .unit ∧ (respond w (.release c i)).2.cnt c i = 0 := by
  have hn : i ∈ w.lk.get c := by
    apply List.count_pos_iff.mp
    unfold World.cnt at h; omega
  obtain ⟨w1, hr, _, hl⟩ := respond_release_held w c i hn
  rw [hr]
  refine ⟨rfl, ?_⟩
  show (w1.lk.get c).count i = 0
  rw [hl, Locks.get_put_same, List.count_erase_self]
  unfold World.cnt at h
  omega


/-! ### one thread, one step -/

def TState.prog : TState → Prog (Except Exc Val)
  | .fresh p => p
  | .at e k => .op e k
  | .finished r => .ret r

theorem TState.rest_eq (t : TState) (w : World) : t.rest w = t.prog.run w := by
  cases t <;> rfl

theorem step_prog_run (fuel : Nat) (t : TState) (w : World) :
    (t.step fuel w).1.prog.run (t.step fuel w).2 = t.prog.run w := by
  rw [← TState.rest_eq, ← TState.rest_eq]; exact step_rest fuel t w

/-- the identifiers a thread holds (by its own account) are in the world's lists -/
def Held (h : List Lock) (w : World) : Prop := ∀ l ∈ h, l.id ∈ w.lk.get l.cls

theorem held_of_lk_eq {h : List Lock} {w w' : World} (hw : Held h w) (e : w'.lk = w.lk) : Held h w' := by
  intro l hl; rw [e]; exact hw l hl

theorem notLock_of_ne (e : Ev) (h1 : ∀ c i, e ≠ .acquire c i) (h2 : ∀ c i, e ≠ .release c i) : NotLock e := by
  cases e <;> first | trivial | exact (h1 _ _ rfl).elim | exact (h2 _ _ rfl).elim

theorem respond_lk_notLock (w : World) (e : Ev) (h : NotLock e) : (respond w e).2.lk = w.lk :=
  respond_lk_other w e fun _ _ => ⟨fun he => by subst he; exact h, fun he => by subst he; exact h⟩

theorem avoid_of_notLock {c : LockClass} {i : Str} {e : Ev} (h : NotLock e) : Avoid c i e := by
  constructor <;> (intro he; subst he; exact h.elim)

section
variable {c : LockClass} {i : Str} {post : List Lock → Except Exc Val → Prop}

/-- for a primitive that is not a lock operation both static readings continue
    with every answer -/
theorem finU_notLock {e : Ev} {k : Resp → Prog (Except Exc Val)} (hn : NotLock e)
    (h : (Prog.op e k).FinU c i) (r : Resp) : (k r).FinU c i := by
  cases e <;> first | exact hn.elim | exact h r

theorem disc_notLock {e : Ev} {k : Resp → Prog (Except Exc Val)} {hl : List Lock} (hn : NotLock e)
    (h : (Prog.op e k).Disc post hl) (r : Resp) : (k r).Disc post hl := by
  cases e <;> first | exact hn.elim | exact h r

theorem boundary_of_lock (e : Ev) (h : ¬ NotLock e) : e.boundary = true := by
  cases e <;> first | rfl | exact (h trivial).elim

/-- walking to the next scheduling point passes no lock operation: the thread is
    still inside, holds what it held -/
theorem finU_runToBoundary (fuel : Nat) (p : Prog (Except Exc Val)) (w : World) (hl : List Lock)
    (hp : p.FinU c i) (hd : p.Disc post hl) (hh : Held hl w) (hc : w.cnt c i = 1) :
    (runToBoundary fuel p w).1.prog.FinU c i ∧ (runToBoundary fuel p w).1.prog.Disc post hl ∧
      Held hl (runToBoundary fuel p w).2 ∧ (runToBoundary fuel p w).2.cnt c i = 1 := by
  induction fuel generalizing p w with
  | zero => exact ⟨hp, hd, hh, hc⟩
  | succ n ih =>
    cases p with
    | ret r => exact hp.elim
    | op e k =>
      simp only [runToBoundary]
      split
      · exact ⟨hp, hd, hh, hc⟩
      · rename_i hb
        have hn : NotLock e := by
          apply Classical.byContradiction
          intro hne; exact hb (boundary_of_lock e hne)
        exact ih _ _ (finU_notLock hn hp _) (disc_notLock hn hd _)
          (held_of_lk_eq hh (respond_lk_notLock w e hn))
          (by rw [respond_cnt_avoid w c i e (avoid_of_notLock hn)]; exact hc)

theorem quiet_runToBoundary (fuel : Nat) (p : Prog (Except Exc Val)) (w : World) (hp : p.Quiet) :
    (runToBoundary fuel p w).1.prog = p ∧ (runToBoundary fuel p w).2 = w := by
  cases p with
  | op e k => exact hp.elim
  | ret r => cases fuel <;> exact ⟨rfl, rfl⟩

theorem held_acquire {hl : List Lock} {w w1 : World} {c' : LockClass} {i' : Str} (hh : Held hl w)
    (e : w1.lk = w.lk.put c' (w.lk.get c' ++ [i'])) : Held (hl ++ [⟨c', i'⟩]) w1 := by
  intro l hl'
  rw [e]
  rcases List.mem_append.mp hl' with h1 | h1
  · by_cases hc : c' = l.cls
    · subst hc; rw [Locks.get_put_same]; exact List.mem_append_left _ (hh l h1)
    · rw [Locks.get_put_ne _ _ hc]; exact hh l h1
  · simp only [List.mem_singleton] at h1; subst h1
    simp only
    rw [Locks.get_put_same]; simp

theorem held_release {hl : List Lock} {w w1 : World} {c' : LockClass} {i' : Str} (hh : Held hl w) (hn : hl.Nodup)
    (e : w1.lk = w.lk.put c' ((w.lk.get c').erase i')) : Held (hl.erase ⟨c', i'⟩) w1 := by
  intro l hl'
  rw [e]
  have hmem : l ∈ hl := List.mem_of_mem_erase hl'
  have hne : l ≠ ⟨c', i'⟩ := by
    intro e'; subst e'
    exact (List.Nodup.mem_erase_iff hn).mp hl' |>.1 rfl
  by_cases hc : c' = l.cls
  · subst hc
    rw [Locks.get_put_same]
    have hi : l.id ≠ i' := by
      intro e'; apply hne; cases l; simp only at e'; subst e'; rfl
    exact (List.mem_erase_of_ne hi).mpr (hh l hmem)
  · rw [Locks.get_put_ne _ _ hc]; exact hh l hmem

/-- a thread inside its bracket takes an enabled step: it is still inside, or it
    has released the identifier and has nothing left to do -/
theorem finU_step (fuel : Nat) (t : TState) (w : World) (hl : List Lock) (ht : t.prog.FinU c i)
    (hd : t.prog.Disc post hl) (hh : Held hl w) (hn : hl.Nodup) (hc : w.cnt c i = 1) (hen : t.enabled w = true) :
    (∃ hl', (t.step fuel w).1.prog.FinU c i ∧ (t.step fuel w).1.prog.Disc post hl' ∧ Held hl' (t.step fuel w).2 ∧
        hl'.Nodup ∧ (t.step fuel w).2.cnt c i = 1) ∨
    ((t.step fuel w).1.prog.Quiet ∧ (t.step fuel w).2.cnt c i = 0) := by
  cases t with
  | fresh p =>
    obtain ⟨h1, h2, h3, h4⟩ := finU_runToBoundary fuel p w hl ht hd hh hc
    exact Or.inl ⟨hl, h1, h2, h3, hn, h4⟩
  | finished r => exact ht.elim
  | «at» e k =>
    have hstep : (TState.at e k).step fuel w = runToBoundary fuel (k (respond w e).1) (respond w e).2 := rfl
    rw [hstep]
    by_cases hnl : NotLock e
    · left
      obtain ⟨h1, h2, h3, h4⟩ := finU_runToBoundary fuel (k (respond w e).1) (respond w e).2 hl
        (finU_notLock hnl ht _) (disc_notLock hnl hd _) (held_of_lk_eq hh (respond_lk_notLock w e hnl))
        (by rw [respond_cnt_avoid w c i e (avoid_of_notLock hnl)]; exact hc)
      exact ⟨hl, h1, h2, h3, hn, h4⟩
    · cases e with
      | acquire c' i' =>
        simp only [TState.prog, Prog.FinU, Prog.Disc] at ht hd
        have hfree : i' ∉ w.lk.get c' := by
          simpa [TState.enabled] using hen
        obtain ⟨w1, hr, _, hlk⟩ := respond_acquire_free w c' i' hfree
        have hav : Avoid c i (.acquire c' i') := by
          constructor
          · intro e'; cases e'; exact ht.1 rfl
          · intro e'; cases e'
        have hc1 : w1.cnt c i = 1 := by
          have := respond_cnt_avoid w c i _ hav; rw [hr] at this; rw [this]; exact hc
        have hnot : (⟨c', i'⟩ : Lock) ∉ hl := fun hm => hfree (hh _ hm)
        left
        rw [hr]
        obtain ⟨h1, h2, h3, h4⟩ := finU_runToBoundary fuel (k .unit) w1 (hl ++ [⟨c', i'⟩]) ht.2 hd.2
          (held_acquire hh hlk) hc1
        refine ⟨hl ++ [⟨c', i'⟩], h1, h2, h3, ?_, h4⟩
        rw [List.nodup_append]
        refine ⟨hn, by simp, ?_⟩
        intro a ha b hb
        simp only [List.mem_singleton] at hb; subst hb
        intro e'; subst e'; exact hnot ha
      | release c' i' =>
        simp only [TState.prog, Prog.FinU, Prog.Disc] at ht hd
        rcases ht with ⟨he, hq⟩ | ⟨hne, hf⟩
        · right
          cases he
          obtain ⟨hr1, h0⟩ := respond_release_cnt w c i hc
          rw [show (respond w (.release c i)) = ((respond w (.release c i)).1, (respond w (.release c i)).2) from rfl, hr1]
          obtain ⟨h1, h2⟩ := quiet_runToBoundary fuel (k .unit) (respond w (.release c i)).2 hq
          rw [h1, h2]
          exact ⟨hq, h0⟩
        · left
          have hin : i' ∈ w.lk.get c' := hh _ hd.1
          obtain ⟨w1, hr, _, hlk⟩ := respond_release_held w c' i' hin
          have hav : Avoid c i (.release c' i') := by
            constructor
            · intro e'; cases e'
            · intro e'; cases e'; exact hne rfl
          have hc1 : w1.cnt c i = 1 := by
            have := respond_cnt_avoid w c i _ hav; rw [hr] at this; rw [this]; exact hc
          rw [hr]
          obtain ⟨h1, h2, h3, h4⟩ := finU_runToBoundary fuel (k .unit) w1 (hl.erase ⟨c', i'⟩) hf hd.2
            (held_release hh hn hlk) hc1
          exact ⟨hl.erase ⟨c', i'⟩, h1, h2, h3, hn.erase _, h4⟩
      | _ => exact (hnl trivial).elim

/-- a thread that has not started, or stands before its acquire without trying it -/
theorem fresh_acquire_step (fuel : Nat) (k : Resp → Prog (Except Exc Val)) (w : World) :
    ((TState.fresh (.op (.acquire c i) k)).step fuel w).1.prog = .op (.acquire c i) k ∧
    ((TState.fresh (.op (.acquire c i) k)).step fuel w).2 = w := by
  cases fuel <;> exact ⟨rfl, rfl⟩

/-- passing the acquire -/
theorem at_acquire_step (fuel : Nat) (k : Resp → Prog (Except Exc Val)) (w : World) (hk : (k .unit).FinU c i)
    (hd : (k .unit).Disc post [⟨c, i⟩]) (hc : w.cnt c i = 0) :
    ((TState.at (.acquire c i) k).step fuel w).1.prog.FinU c i ∧
    ((TState.at (.acquire c i) k).step fuel w).1.prog.Disc post [⟨c, i⟩] ∧
    Held [⟨c, i⟩] ((TState.at (.acquire c i) k).step fuel w).2 ∧
    ((TState.at (.acquire c i) k).step fuel w).2.cnt c i = 1 := by
  have hfree : i ∉ w.lk.get c := List.count_eq_zero.mp hc
  obtain ⟨w1, hr, _, hlk⟩ := respond_acquire_free w c i hfree
  obtain ⟨_, h2⟩ := respond_acquire_cnt w c i hc
  have hstep : (TState.at (.acquire c i) k).step fuel w = runToBoundary fuel (k (respond w (.acquire c i)).1) (respond w (.acquire c i)).2 := rfl
  rw [hstep]
  rw [hr] at h2 ⊢
  have hh : Held [⟨c, i⟩] w1 := by
    have := held_acquire (hl := []) (w := w) (w1 := w1) (c' := c) (i' := i) (by intro l hl; cases hl) hlk
    simpa using this
  exact finU_runToBoundary fuel (k .unit) w1 [⟨c, i⟩] hk hd hh h2

theorem quiet_step (fuel : Nat) (t : TState) (w : World) (ht : t.prog.Quiet) :
    (t.step fuel w).1.prog = t.prog ∧ (t.step fuel w).2 = w := by
  cases t with
  | fresh p => exact quiet_runToBoundary fuel p w ht
  | finished r => exact ⟨rfl, rfl⟩
  | «at» e k => exact ht.elim

end

/-! ### the sequential reference and the invariant -/

abbrev Results := List (Nat × Except Exc Val)

/-- run thread `j`'s whole program on the world reached so far -/
def seqStep (progs : List (Prog (Except Exc Val))) (acc : World × Results) (j : Nat) : World × Results :=
  match progs[j]? with
  | some p => ((p.run acc.1).2, acc.2 ++ [(j, (p.run acc.1).1)])
  | none => acc

/-- the programs run one after the other, whole, in the given order -/
def seqRun (progs : List (Prog (Except Exc Val))) (order : List Nat) (w0 : World) : World × Results :=
  order.foldl (seqStep progs) (w0, [])

theorem seqRun_snoc (progs : List (Prog (Except Exc Val))) (order : List Nat) (j : Nat) (w0 : World) :
    seqRun progs (order ++ [j]) w0 = seqStep progs (seqRun progs order w0) j := by
  simp [seqRun, List.foldl_append]

section
variable (c : LockClass) (i : Str) (post : List Lock → Except Exc Val → Prop) (act : Nat → Prop)
  (progs : List (Prog (Except Exc Val))) (w0 : World)

/-- has not passed its acquire -/
def Waiting (t : TState) (p : Prog (Except Exc Val)) : Prop :=
  t.prog = p ∧ ∃ k, p = .op (.acquire c i) k ∧ (k .unit).FinU c i ∧ (k .unit).Disc post [⟨c, i⟩]

/-- `done`: the threads that have nothing left to do, in the order in which they got there;
    `cur`: the thread inside its bracket, if any -/
structure SInv (cf : Conf) (done : List Nat) (cur : Option Nat) : Prop where
  len : cf.ts.length = progs.length
  nodup : done.Nodup
  dlt : ∀ j ∈ done, j < progs.length
  dret : ∀ j ∈ done, ∀ t, cf.ts[j]? = some t → ∃ v, t.prog = .ret v ∧ (j, v) ∈ (seqRun progs done w0).2
  wait : ∀ j t p, act j → j ∉ done → some j ≠ cur → cf.ts[j]? = some t → progs[j]? = some p → Waiting c i post t p
  curNone : cur = none → cf.w.cnt c i = 0 ∧ cf.w = (seqRun progs done w0).1
  curSome : ∀ a, cur = some a → a ∉ done ∧ cf.w.cnt c i = 1 ∧ ∃ t p hl, cf.ts[a]? = some t ∧ progs[a]? = some p ∧
    t.prog.FinU c i ∧ t.prog.Disc post hl ∧ Held hl cf.w ∧ hl.Nodup ∧ t.prog.run cf.w = p.run (seqRun progs done w0).1

theorem sinv_step {cf : Conf} {done : List Nat} {cur : Option Nat} (h : SInv c i post act progs w0 cf done cur)
    (fuel j : Nat) (t : TState) (hj : cf.ts[j]? = some t) (hen : t.enabled cf.w = true)
    (hact : j ∉ done → some j ≠ cur → act j) :
    ∃ done' cur', SInv c i post act progs w0 { w := (t.step fuel cf.w).2, ts := cf.ts.set j (t.step fuel cf.w).1 } done' cur' ∧
      (∀ x ∈ done', x ∈ done ∨ x = j) ∧ (cur' = cur ∨ cur' = some j ∨ cur' = none) := by
  have hjlt : j < cf.ts.length := by
    rcases Nat.lt_or_ge j cf.ts.length with h1 | h1
    · exact h1
    · rw [List.getElem?_eq_none h1] at hj; cases hj
  have hset_self : (cf.ts.set j (t.step fuel cf.w).1)[j]? = some (t.step fuel cf.w).1 := by
    rw [List.getElem?_set_self hjlt]
  have hset_ne : ∀ j', j' ≠ j → (cf.ts.set j (t.step fuel cf.w).1)[j']? = cf.ts[j']? := by
    intro j' hne; rw [List.getElem?_set_ne (Ne.symm hne)]
  obtain ⟨p, hp⟩ : ∃ p, progs[j]? = some p := by
    have : j < progs.length := h.len ▸ hjlt
    exact ⟨progs[j], List.getElem?_eq_getElem this⟩
  by_cases hd : j ∈ done
  · -- nothing left to do: at most the thread is marked finished
    obtain ⟨v, hv, hmem⟩ := h.dret j hd t hj
    obtain ⟨h1, h2⟩ := quiet_step fuel t cf.w (by rw [hv]; trivial)
    refine ⟨done, cur, ⟨by simpa using h.len, h.nodup, h.dlt, ?_, ?_, ?_, ?_⟩, fun x hx => Or.inl hx, Or.inl rfl⟩
    · intro j' hj' t' ht'
      by_cases e : j' = j
      · subst e; rw [hset_self] at ht'; cases ht'
        exact ⟨v, by rw [h1, hv], hmem⟩
      · rw [hset_ne j' e] at ht'; exact h.dret j' hj' t' ht'
    · intro j' t' p' ha' hj' hc' ht' hp'
      have e : j' ≠ j := fun e => hj' (e ▸ hd)
      rw [hset_ne j' e] at ht'; exact h.wait j' t' p' ha' hj' hc' ht' hp'
    · intro hc; simp only [h2]; exact h.curNone hc
    · intro a ha
      obtain ⟨h3, h4, t', p', hl, h5, h6, h7, h7d, h7h, h7n, h8⟩ := h.curSome a ha
      have e : a ≠ j := fun e => h3 (e ▸ hd)
      refine ⟨h3, by simp only [h2]; exact h4, t', p', hl, by rw [hset_ne a e]; exact h5, h6, h7, h7d,
        by simp only [h2]; exact h7h, h7n, by simp only [h2]; exact h8⟩
  · by_cases hc : some j = cur
    · -- the thread inside its bracket moves
      obtain ⟨h3, h4, t', p', hl, h5, h6, h7, h7d, h7h, h7n, h8⟩ := h.curSome j hc.symm
      rw [hj] at h5; cases h5
      rw [hp] at h6; cases h6
      have hrun := step_prog_run fuel t cf.w
      rcases finU_step fuel t cf.w hl h7 h7d h7h h7n h4 hen with ⟨hl', hf, hfd, hfh, hfn, hc1⟩ | ⟨hq, hc0⟩
      · refine ⟨done, cur, ⟨by simpa using h.len, h.nodup, h.dlt, ?_, ?_, ?_, ?_⟩, fun x hx => Or.inl hx, Or.inl rfl⟩
        · intro j' hj' t' ht'
          have e : j' ≠ j := fun e => hd (e ▸ hj')
          rw [hset_ne j' e] at ht'; exact h.dret j' hj' t' ht'
        · intro j' t' p' ha' hj' hc' ht' hp'
          have e : j' ≠ j := fun e => hc' (e ▸ hc)
          rw [hset_ne j' e] at ht'; exact h.wait j' t' p' ha' hj' hc' ht' hp'
        · intro hn; rw [hn] at hc; cases hc
        · intro a ha
          have e : a = j := by rw [← hc] at ha; cases ha; rfl
          subst e
          exact ⟨h3, hc1, _, p, hl', hset_self, hp, hf, hfd, hfh, hfn, by rw [hrun]; exact h8⟩
      · -- it has released the identifier and returned
        obtain ⟨v, hv⟩ : ∃ v, (t.step fuel cf.w).1.prog = .ret v := by
          cases hq' : (t.step fuel cf.w).1.prog with
          | ret v => exact ⟨v, rfl⟩
          | op e k => rw [hq'] at hq; exact hq.elim
        rw [hv] at hrun
        have hw : (t.step fuel cf.w).2 = (p.run (seqRun progs done w0).1).2 := by
          have := congrArg Prod.snd hrun; rw [h8] at this; exact this
        have hres : v = (p.run (seqRun progs done w0).1).1 := by
          have := congrArg Prod.fst hrun; rw [h8] at this; exact this
        have hsnoc : seqRun progs (done ++ [j]) w0 =
            ((p.run (seqRun progs done w0).1).2, (seqRun progs done w0).2 ++ [(j, (p.run (seqRun progs done w0).1).1)]) := by
          rw [seqRun_snoc]; simp only [seqStep, hp]
        refine ⟨done ++ [j], none, ⟨by simpa using h.len, ?_, ?_, ?_, ?_, ?_, ?_⟩,
          (fun x hx => by rcases List.mem_append.mp hx with hx | hx; exact Or.inl hx; exact Or.inr (List.mem_singleton.mp hx)),
          Or.inr (Or.inr rfl)⟩
        · rw [List.nodup_append]
          refine ⟨h.nodup, by simp, ?_⟩
          intro a ha b hb
          simp only [List.mem_singleton] at hb; subst hb
          intro e; subst e; exact hd ha
        · intro j' hj'
          rcases List.mem_append.mp hj' with hj' | hj'
          · exact h.dlt j' hj'
          · simp only [List.mem_singleton] at hj'; subst hj'
            exact h.len ▸ hjlt
        · intro j' hj' t' ht'
          rw [hsnoc]
          rcases List.mem_append.mp hj' with hj' | hj'
          · have e : j' ≠ j := fun e => hd (e ▸ hj')
            rw [hset_ne j' e] at ht'
            obtain ⟨v', h1, h2⟩ := h.dret j' hj' t' ht'
            exact ⟨v', h1, List.mem_append_left _ h2⟩
          · simp only [List.mem_singleton] at hj'; subst hj'
            rw [hset_self] at ht'; cases ht'
            exact ⟨v, hv, List.mem_append_right _ (by rw [hres]; simp)⟩
        · intro j' t' p' ha' hj' _ ht' hp'
          have hj1 : j' ∉ done := fun e => hj' (List.mem_append_left _ e)
          have e : j' ≠ j := fun e => hj' (List.mem_append_right _ (by simp [e]))
          rw [hset_ne j' e] at ht'
          exact h.wait j' t' p' ha' hj1 (by rw [← hc]; intro e'; cases e'; exact e rfl) ht' hp'
        · intro _
          refine ⟨hc0, ?_⟩
          rw [hsnoc]; exact hw
        · intro a ha; cases ha
    · -- a thread that has not passed its acquire
      obtain ⟨hprog, k, hk, hfin, hdisc⟩ := h.wait j t p (hact hd hc) hd hc hj hp
      subst hk
      cases t with
      | finished r => cases hprog
      | fresh q =>
        have hq : q = .op (.acquire c i) k := hprog
        subst hq
        obtain ⟨h1, h2⟩ := fresh_acquire_step (c := c) (i := i) fuel k cf.w
        refine ⟨done, cur, ⟨by simpa using h.len, h.nodup, h.dlt, ?_, ?_, ?_, ?_⟩, fun x hx => Or.inl hx, Or.inl rfl⟩
        · intro j' hj' t' ht'
          have e : j' ≠ j := fun e => hd (e ▸ hj')
          rw [hset_ne j' e] at ht'; exact h.dret j' hj' t' ht'
        · intro j' t' p' ha' hj' hc' ht' hp'
          by_cases e : j' = j
          · subst e; rw [hset_self] at ht'; cases ht'
            rw [hp] at hp'; cases hp'
            exact ⟨h1, k, rfl, hfin, hdisc⟩
          · rw [hset_ne j' e] at ht'; exact h.wait j' t' p' ha' hj' hc' ht' hp'
        · intro hn; simp only [h2]; exact h.curNone hn
        · intro a ha
          obtain ⟨h3, h4, t', p', hl, h5, h6, h7, h7d, h7h, h7n, h8⟩ := h.curSome a ha
          have e : a ≠ j := fun e => hc (by rw [ha, e])
          exact ⟨h3, by simp only [h2]; exact h4, t', p', hl, by rw [hset_ne a e]; exact h5, h6, h7, h7d,
            by simp only [h2]; exact h7h, h7n, by simp only [h2]; exact h8⟩
      | «at» e k' =>
        have he : e = .acquire c i ∧ k' = k := by
          simp only [TState.prog, Prog.op.injEq] at hprog; exact ⟨hprog.1, hprog.2⟩
        obtain ⟨he1, he2⟩ := he
        subst he1; subst he2
        have hfree : cf.w.cnt c i = 0 := by
          simp only [TState.enabled, Bool.not_eq_true', List.contains_eq_mem, decide_eq_false_iff_not] at hen
          exact List.count_eq_zero.mpr hen
        have hcur : cur = none := by
          cases hcur : cur with
          | none => rfl
          | some a => obtain ⟨_, h4, _⟩ := h.curSome a hcur; rw [hfree] at h4; cases h4
        obtain ⟨_, hw⟩ := h.curNone hcur
        obtain ⟨hf, hfd, hfh, hc1⟩ := at_acquire_step fuel k' cf.w hfin hdisc hfree
        have hrun := step_prog_run fuel (TState.at (.acquire c i) k') cf.w
        refine ⟨done, some j, ⟨by simpa using h.len, h.nodup, h.dlt, ?_, ?_, ?_, ?_⟩, fun x hx => Or.inl hx, Or.inr (Or.inl rfl)⟩
        · intro j' hj' t' ht'
          have e : j' ≠ j := fun e => hd (e ▸ hj')
          rw [hset_ne j' e] at ht'; exact h.dret j' hj' t' ht'
        · intro j' t' p' ha' hj' hc' ht' hp'
          have e : j' ≠ j := fun e => hc' (by rw [e])
          rw [hset_ne j' e] at ht'
          exact h.wait j' t' p' ha' hj' (by rw [hcur]; intro e'; cases e') ht' hp'
        · intro hn; cases hn
        · intro a ha
          cases ha
          exact ⟨hd, hc1, _, _, [⟨c, i⟩], hset_self, hp, hf, hfd, hfh, by simp, by rw [hrun, hw]; rfl⟩

end

/-! ### every schedule -/

section
variable (c : LockClass) (i : Str) (post : List Lock → Except Exc Val → Prop)
  (progs : List (Prog (Except Exc Val))) (w0 : World)

/-- all threads take part from the start -/
abbrev allAct : Nat → Prop := fun _ => True

theorem sinv_schedule (fuel : Nat) (sched : List Nat) (cf : Conf) (n : Nat) (done : List Nat) (cur : Option Nat)
    (h : SInv c i post allAct progs w0 cf done cur) :
    ∃ done' cur', SInv c i post allAct progs w0 (runSchedule fuel cf sched n).1 done' cur' := by
  induction sched generalizing cf n done cur with
  | nil => exact ⟨done, cur, h⟩
  | cons j rest ih =>
    simp only [runSchedule]
    cases hj : cf.ts[j]? with
    | none => exact ⟨done, cur, h⟩
    | some t =>
      simp only
      by_cases hen : t.enabled cf.w = true
      · rw [if_pos hen]
        obtain ⟨d', c', h', _, _⟩ := sinv_step c i post allAct progs w0 h fuel j t hj hen (fun _ _ => trivial)
        exact ih _ _ d' c' h'
      · rw [if_neg hen]; exact ⟨done, cur, h⟩

/-- membership in the result list only grows -/
theorem seqStep_mono (acc : World × Results) (j : Nat) (x : Nat × Except Exc Val) (hx : x ∈ acc.2) :
    x ∈ (seqStep progs acc j).2 := by
  unfold seqStep
  split
  · exact List.mem_append_left _ hx
  · exact hx

theorem foldl_seqStep_mono (l : List Nat) (acc : World × Results) (x : Nat × Except Exc Val) (hx : x ∈ acc.2) :
    x ∈ (l.foldl (seqStep progs) acc).2 := by
  induction l generalizing acc with
  | nil => exact hx
  | cons a r ih => exact ih _ (seqStep_mono progs acc a x hx)

/-- threads that return without a primitive leave the world alone and report their value -/
theorem foldl_seqStep_quiet (l : List Nat) (acc : World × Results)
    (hl : ∀ j ∈ l, ∀ p, progs[j]? = some p → p.Quiet) :
    (l.foldl (seqStep progs) acc).1 = acc.1 ∧
    ∀ j ∈ l, ∀ v, progs[j]? = some (.ret v) → (j, v) ∈ (l.foldl (seqStep progs) acc).2 := by
  induction l generalizing acc with
  | nil => exact ⟨rfl, fun j hj => by cases hj⟩
  | cons a r ih =>
    have hr : ∀ j ∈ r, ∀ p, progs[j]? = some p → p.Quiet := fun j hj => hl j (List.mem_cons_of_mem _ hj)
    obtain ⟨h1, h2⟩ := ih (seqStep progs acc a) hr
    have hw : (seqStep progs acc a).1 = acc.1 := by
      unfold seqStep
      cases hp : progs[a]? with
      | none => rfl
      | some p =>
        have hq := hl a (List.mem_cons_self ..) p hp
        cases p with
        | ret v => rfl
        | op e k => exact hq.elim
    refine ⟨by simp only [List.foldl_cons]; rw [h1, hw], ?_⟩
    intro j hj v hv
    simp only [List.foldl_cons]
    rcases List.mem_cons.mp hj with e | hj
    · subst e
      apply foldl_seqStep_mono
      unfold seqStep; rw [hv]
      exact List.mem_append_right _ (by simp [Prog.run])
    · exact h2 j hj v hv

def isRet : Prog (Except Exc Val) → Bool
  | .ret _ => true
  | .op _ _ => false

/-- threads with nothing to do from the start (calls rejected for their arguments) -/
def done0 : List Nat := (List.range progs.length).filter fun j => match progs[j]? with | some p => isRet p | none => false

theorem sinv_initial (act : Nat → Prop)
    (hb : ∀ (j : Nat) (p : Prog (Except Exc Val)), act j → progs[j]? = some p → ¬ p.Quiet → p.BracketedU c i ∧ p.Disc post [])
    (h0 : w0.cnt c i = 0) :
    SInv c i post act progs w0 { w := w0, ts := progs.map .fresh } (done0 progs) none := by
  have hquiet : ∀ j ∈ done0 progs, ∀ p, progs[j]? = some p → p.Quiet := by
    intro j hj p hp
    simp only [done0, List.mem_filter, hp] at hj
    cases p with
    | ret v => trivial
    | op e k => simp [isRet] at hj
  obtain ⟨hw, hres⟩ := foldl_seqStep_quiet progs (done0 progs) (w0, []) hquiet
  have hts : ∀ (j : Nat) (t : TState), (progs.map TState.fresh)[j]? = some t → ∃ p, progs[j]? = some p ∧ t = TState.fresh p := by
    intro j t ht
    rw [List.getElem?_map] at ht
    cases hp : progs[j]? with
    | none => rw [hp] at ht; cases ht
    | some p => rw [hp] at ht; cases ht; exact ⟨p, rfl, rfl⟩
  refine ⟨by simp, ?_, ?_, ?_, ?_, ?_, ?_⟩
  · exact List.Nodup.sublist List.filter_sublist List.nodup_range
  · intro j hj
    simp only [done0, List.mem_filter, List.mem_range] at hj
    exact hj.1
  · intro j hj t ht
    obtain ⟨p, hp, rfl⟩ := hts j t ht
    have hq := hquiet j hj p hp
    cases p with
    | op e k => exact hq.elim
    | ret v => exact ⟨v, rfl, hres j hj v hp⟩
  · intro j t p hact hj _ ht hp
    obtain ⟨p', hp', rfl⟩ := hts j t ht
    rw [hp] at hp'; cases hp'
    have hjlt : j < progs.length := by
      rcases Nat.lt_or_ge j progs.length with h1 | h1
      · exact h1
      · rw [List.getElem?_eq_none h1] at hp; cases hp
    have hbp := hb j p hact hp
    cases p with
    | ret v =>
      exfalso; apply hj
      simp only [done0, List.mem_filter, List.mem_range, hp, isRet, and_true]
      exact hjlt
    | op e k =>
      obtain ⟨⟨he, hk⟩, hdisc⟩ := hbp (fun hq => hq.elim)
      subst he
      simp only [Prog.Disc, List.nil_append] at hdisc
      exact ⟨rfl, k, rfl, hk, hdisc.2⟩
  · intro _; exact ⟨h0, hw.symm⟩
  · intro a ha; cases ha

/-- **Serialisation.** Any number of threads, each of which either returns at
    once or does all its work between acquiring and finally releasing the one
    identifier `(c, i)`; any start world in which `(c, i)` is free (any store,
    any other identifiers held, any fault plan); any schedule; any step budget.
    If all threads have returned, then there is an order of the threads such
    that the world is exactly the one reached by running the programs whole, one
    after the other, in that order — store, lock lists, fault plan and effect
    log — and every thread's result is its result in that sequential run. -/
theorem serial_schedule (hb : ∀ p ∈ progs, p.BracketedU c i ∧ p.Disc post []) (h0 : w0.cnt c i = 0) (fuel : Nat)
    (sched : List Nat) :
    let fin := (runSchedule fuel { w := w0, ts := progs.map .fresh } sched 0).1
    fin.allFinished = true →
    ∃ order : List Nat, order.Nodup ∧ (∀ j, j ∈ order ↔ j < progs.length) ∧
      fin.w = (seqRun progs order w0).1 ∧
      ∀ (j : Nat) (t : TState), fin.ts[j]? = some t → ∃ v, t = TState.finished v ∧ (j, v) ∈ (seqRun progs order w0).2 := by
  intro fin hall
  obtain ⟨done, cur, h⟩ := sinv_schedule c i post progs w0 fuel sched _ 0 _ _ (sinv_initial c i post progs w0 allAct (fun j p _ hp _ => hb p (List.mem_of_getElem? hp)) h0)
  have hfin : ∀ (j : Nat) (t : TState), fin.ts[j]? = some t → ∃ v, t = TState.finished v := by
    intro j t ht
    have := List.all_eq_true.mp hall t (List.mem_of_getElem? ht)
    cases t with
    | finished v => exact ⟨v, rfl⟩
    | fresh p => simp at this
    | «at» e k => simp at this
  have hcur : cur = none := by
    cases hc : cur with
    | none => rfl
    | some a =>
      obtain ⟨_, _, t, p, _, ht, _, hf, _⟩ := h.curSome a hc
      obtain ⟨v, rfl⟩ := hfin a t ht
      exact hf.elim
  have hlen : fin.ts.length = progs.length := h.len
  have hall_done : ∀ j, j < progs.length → j ∈ done := by
    intro j hj
    apply Classical.byContradiction
    intro hnd
    have hjt : j < fin.ts.length := hlen ▸ hj
    have ht : fin.ts[j]? = some fin.ts[j] := List.getElem?_eq_getElem hjt
    have hp : progs[j]? = some progs[j] := List.getElem?_eq_getElem hj
    obtain ⟨v, hv⟩ := hfin j _ ht
    obtain ⟨hprog, k, hk, _⟩ := h.wait j _ _ trivial hnd (by rw [hcur]; intro e; cases e) ht hp
    rw [hv, hk] at hprog
    cases hprog
  refine ⟨done, h.nodup, ?_, (h.curNone hcur).2, ?_⟩
  · intro j
    constructor
    · exact h.dlt j
    · exact hall_done j
  · intro j t ht
    obtain ⟨v, rfl⟩ := hfin j t ht
    have hj : j < progs.length := by
      rcases Nat.lt_or_ge j fin.ts.length with h1 | h1
      · exact hlen ▸ h1
      · rw [List.getElem?_eq_none h1] at ht; cases ht
    obtain ⟨v', hv', hmem⟩ := h.dret j (hall_done j hj) _ ht
    cases hv'
    exact ⟨v, rfl, hmem⟩

end

/-! ### the calls that are bracketed -/

theorem Prog.bracketed_bind_quiet {α β : Type} {c : LockClass} {i : Str} (m : Prog α) (f : α → Prog β)
    (hm : m.Bracketed c i) (hf : ∀ a, (f a).Quiet) : (Prog.bind m f).Bracketed c i := by
  cases m with
  | ret a =>
    show (f a).Bracketed c i
    have := hf a
    cases hfa : f a with
    | ret b => trivial
    | op e k => rw [hfa] at this; exact this.elim
  | op e k => exact ⟨hm.1, Prog.fin_bind_quiet _ _ hm.2 hf⟩

theorem withDocLock_bracketed {α : Type} (doc : Str) (body : PE α) (hb : body.AllEv (Avoid .doc doc)) :
    Prog.Bracketed .doc doc (withDocLock doc body : Prog (Except Exc α)) :=
  ⟨rfl, withFinally_fin .doc doc body hb⟩

/-- a primitive that is not a lock operation, or one on another class, avoids `(c, i)` -/
macro "avoid_prim" : tactic => `(tactic| exact And.intro (by intro h; cases h) (by intro h; cases h))

section
variable (cfg : Config) (o : Oracle)

/-- `store_metadata(pid, data, format)`: rejected at once, or bracketed by its document name -/
theorem storeMetadata_bracketed (pid : SArg) (data : DataArg) (fmt : SArg) (p f : Str)
    (hp : checkString pid = .ok p) (hf : checkArgFormatId cfg.ns fmt = .ok f) :
    Prog.Bracketed .doc (o.hId (p ++ f)) (storeMetadata cfg o pid data fmt : Prog (Except Exc Val)) := by
  unfold storeMetadata
  rw [hp, hf]
  cases hd : checkArgData data with
  | error e => trivial
  | ok u =>
    apply withDocLock_bracketed
    repeat (first | allev_step | avoid_prim)

theorem PE.ofExcept_ok_bind {α β : Type} (a : α) (f : α → PE β) : (PE.ofExcept (.ok a) >>= f) = f a := rfl

/-- `delete_metadata(pid, format)` with a format: the same -/
theorem deleteMetadata_bracketed (pid fmt : SArg) (p f : Str) (hfmt : fmt ≠ .none)
    (hp : checkString pid = .ok p) (hf : checkArgFormatId cfg.ns fmt = .ok f) :
    Prog.Bracketed .doc (o.hId (p ++ f)) (deleteMetadata cfg o pid fmt : Prog (Except Exc Val)) := by
  unfold deleteMetadata
  rw [hp, hf]
  cases fmt with
  | none => exact (hfmt rfl).elim
  | other =>
    rw [PE.ofExcept_ok_bind, PE.ofExcept_ok_bind]
    unfold deleteMetadataCore
    apply Prog.bracketed_bind_quiet
    · apply withDocLock_bracketed
      repeat (first | allev_step | avoid_prim)
    · intro a; cases a <;> trivial
  | str s =>
    rw [PE.ofExcept_ok_bind, PE.ofExcept_ok_bind]
    unfold deleteMetadataCore
    apply Prog.bracketed_bind_quiet
    · apply withDocLock_bracketed
      repeat (first | allev_step | avoid_prim)
    · intro a; cases a <;> trivial

end

/-! ### delete_object: bracketed by its pid in the object-pid class -/

/-- no lock operation on class `c` -/
def NotCls (c : LockClass) : Ev → Prop
  | .acquire c' _ => c' ≠ c
  | .release c' _ => c' ≠ c
  | _ => True

theorem avoid_of_notCls {c : LockClass} (i : Str) {e : Ev} (h : NotCls c e) : Avoid c i e := by
  constructor
  · intro he; subst he; exact h rfl
  · intro he; subst he; exact h rfl

macro "notcls_step" : tactic => `(tactic| first
  | (show (_ : LockClass) ≠ _; decide)
  | allev_step)

section
variable (cfg : Config) (o : Oracle)

theorem findObject_notObjPid (pid : Str) : (findObject cfg o pid).AllEv (NotCls .objPid) := by
  unfold findObject
  repeat notcls_step

theorem updateRefsRemove_notObjPid (cid pid : Str) : (updateRefsRemove cid pid).AllEv (NotCls .objPid) := by
  unfold updateRefsRemove
  repeat notcls_step

theorem deleteMarked_notObjPid (l : List Loc) : (deleteMarked l).AllEv (NotCls .objPid) := by
  induction l with
  | nil => exact PE.allEv_pure _
  | cons a r ih =>
    unfold deleteMarked
    repeat (first | exact ih | notcls_step)

theorem withDocLock_notObjPid {α : Type} (doc : Str) (body : PE α) (h : body.AllEv (NotCls .objPid)) :
    (withDocLock doc body).AllEv (NotCls .objPid) := by
  unfold withDocLock
  repeat (first | exact h | notcls_step)

theorem retireDocs_notObjPid (dir : Str) (names : List Str) : (retireDocs dir names).AllEv (NotCls .objPid) := by
  induction names with
  | nil => exact PE.allEv_pure _
  | cons n r ih =>
    unfold retireDocs
    repeat (first | exact ih | apply withDocLock_notObjPid | notcls_step)

theorem deleteMetadataCore_notObjPid (p : Str) (fmt : Option Str) :
    (deleteMetadataCore o p fmt).AllEv (NotCls .objPid) := by
  unfold deleteMetadataCore
  cases fmt with
  | none =>
    simp only
    repeat (first | exact retireDocs_notObjPid _ _ | exact deleteMarked_notObjPid _ | notcls_step)
  | some f =>
    simp only
    repeat (first | apply withDocLock_notObjPid | notcls_step)

theorem withFinally_acquire_bracketed {α : Type} (c : LockClass) (i : Str) (body : Unit → PE α)
    (hb : (body ()).AllEv (Avoid c i)) :
    Prog.Bracketed c i (PE.withFinally (acquire c i >>= body) (release c i) : Prog (Except Exc α)) :=
  ⟨rfl, withFinally_fin c i (body ()) hb⟩

/-- `delete_object(pid)`: rejected at once, or bracketed by the pid in the object-pid class -/
theorem deleteObject_bracketed (pid : SArg) (p : Str) (hp : checkString pid = .ok p) :
    Prog.Bracketed .objPid p (deleteObject cfg o pid : Prog (Except Exc Val)) := by
  unfold deleteObject
  rw [hp, PE.ofExcept_ok_bind]
  apply withFinally_acquire_bracketed
  apply Prog.allEv_mono _ (fun e => avoid_of_notCls p)
  repeat (first
    | exact findObject_notObjPid cfg o _
    | exact updateRefsRemove_notObjPid _ _
    | exact deleteMarked_notObjPid _
    | exact deleteMetadataCore_notObjPid o _ _
    | notcls_step)

end

/-! ### families of calls on one identifier -/

section
variable (cfg : Config) (o : Oracle)

/-- a `store_metadata` or single-document `delete_metadata` call whose document name,
    if its arguments are accepted, is `doc` -/
def OnDoc (doc : Str) : Call → Prop
  | .storeMetadata pid _ fmt =>
      ∀ p f, checkString pid = .ok p → checkArgFormatId cfg.ns fmt = .ok f → o.hId (p ++ f) = doc
  | .deleteMetadata pid fmt =>
      fmt ≠ .none ∧ ∀ p f, checkString pid = .ok p → checkArgFormatId cfg.ns fmt = .ok f → o.hId (p ++ f) = doc
  | _ => False

theorem onDoc_bracketed (doc : Str) (call : Call) (h : OnDoc cfg o doc call) :
    Prog.Bracketed .doc doc (call.prog cfg o : Prog (Except Exc Val)) := by
  cases call with
  | storeMetadata pid data fmt =>
    simp only [Call.prog]
    cases hp : checkString pid with
    | error e => unfold storeMetadata; rw [hp]; trivial
    | ok p =>
      cases hf : checkArgFormatId cfg.ns fmt with
      | error e =>
        unfold storeMetadata; rw [hp, hf]
        cases checkArgData data <;> trivial
      | ok f =>
        have := h p f hp hf
        subst this
        exact storeMetadata_bracketed cfg o pid data fmt p f hp hf
  | deleteMetadata pid fmt =>
    simp only [Call.prog]
    obtain ⟨hfmt, h⟩ := h
    cases hp : checkString pid with
    | error e => unfold deleteMetadata; rw [hp]; trivial
    | ok p =>
      cases hf : checkArgFormatId cfg.ns fmt with
      | error e => unfold deleteMetadata; rw [hp, hf]; trivial
      | ok f =>
        have := h p f hp hf
        subst this
        exact deleteMetadata_bracketed cfg o pid fmt p f hfmt hp hf
  | _ => exact h.elim

/-- a `delete_object` call on pid `p` (or one rejected for its argument) -/
def DeletesPid (p : Str) : Call → Prop
  | .deleteObject pid => ∀ q, checkString pid = .ok q → q = p
  | _ => False

theorem deletesPid_bracketed (p : Str) (call : Call) (h : DeletesPid p call) :
    Prog.Bracketed .objPid p (call.prog cfg o : Prog (Except Exc Val)) := by
  cases call with
  | deleteObject pid =>
    simp only [Call.prog]
    cases hp : checkString pid with
    | error e => unfold deleteObject; rw [hp]; trivial
    | ok q =>
      have := h q hp
      subst this
      exact deleteObject_bracketed cfg o pid q hp
  | _ => exact h.elim

end

/-! ### tag_object: bracketed by its pid in the reference-pid class (read with the lock discipline) -/

section
variable (cfg : Config) (o : Oracle)

theorem Prog.bracketedU_bind_quiet {α β : Type} {c : LockClass} {i : Str} (m : Prog α) (f : α → Prog β)
    (hm : m.BracketedU c i) (hf : ∀ a, (f a).Quiet) : (Prog.bind m f).BracketedU c i := by
  cases m with
  | ret a =>
    show (f a).BracketedU c i
    have := hf a
    cases hfa : f a with
    | ret b => trivial
    | op e k => rw [hfa] at this; exact this.elim
  | op e k => exact ⟨hm.1, Prog.finU_bind_quiet _ _ hm.2 hf⟩

theorem storeRefs_bracketedU (pid cid : Str) :
    Prog.BracketedU .refPid pid (storeRefs cfg o pid cid : Prog (Except Exc Unit)) := by
  unfold storeRefs PE.withFinally
  refine ⟨rfl, ?_⟩
  apply Prog.finU_bind_avoid
  · apply Prog.allEv_mono _ (fun e (he : NotCls .refPid e) => avoid_of_notCls pid he)
    show PE.AllEv (NotCls .refPid) (acquire .cid cid >>= fun _ => _)
    apply PE.allEv_bind
    · apply allEv_acquire; show LockClass.cid ≠ LockClass.refPid; decide
    intro _
    apply Prog.allEv_mono _ (fun e (he : NotLock e) => (by cases e <;> first | trivial | exact he.elim : NotCls .refPid e))
    apply PE.allEv_tryCatch
    · repeat (first
        | exact verifyRefs_nl o _ _
        | exact updateRefsAdd_nl _ _
        | exact writeRefsTmp_nl
        | allev_step)
    · intro e
      split
      · exact PE.allEv_throw _
      · exact PE.allEv_throw _
      · apply PE.allEv_bind
        · exact untagObject_nl cfg o _ _
        · intro _; exact PE.allEv_throw _
  · intro r
    show Prog.FinU _ _ (Prog.bind (PE.bind' (release .cid cid) fun _ => release .refPid pid) _)
    unfold PE.bind' release unitPrim PE.prim
    simp only [Prog.bind, Prog.FinU]
    refine Or.inr ⟨(by intro h; cases h), Or.inl ⟨trivial, ?_⟩⟩
    trivial

/-- `tag_object(pid, cid)`: rejected at once, or bracketed by the pid in the reference-pid class -/
theorem tagObject_bracketedU (pid cid : SArg) (p : Str) (hp : checkString pid = .ok p) :
    Prog.BracketedU .refPid p (tagObject cfg o pid cid : Prog (Except Exc Val)) := by
  unfold tagObject
  rw [hp, PE.ofExcept_ok_bind]
  cases hc : checkString cid with
  | error e => trivial
  | ok c =>
    rw [PE.ofExcept_ok_bind]
    apply Prog.bracketedU_bind_quiet
    · exact storeRefs_bracketedU cfg o p c
    · intro a; cases a <;> trivial

end

section
variable (cfg : Config) (o : Oracle)

/-- a `tag_object` call on pid `p` (or one rejected for its arguments) -/
def TagsPid (p : Str) : Call → Prop
  | .tagObject pid _ => ∀ q, checkString pid = .ok q → q = p
  | _ => False

theorem tagsPid_bracketedU (p : Str) (call : Call) (h : TagsPid p call) :
    Prog.BracketedU .refPid p (call.prog cfg o : Prog (Except Exc Val)) := by
  cases call with
  | tagObject pid cid =>
    simp only [Call.prog]
    cases hp : checkString pid with
    | error e => unfold tagObject; rw [hp]; trivial
    | ok q =>
      have := h q hp
      subst this
      exact tagObject_bracketedU cfg o pid cid q hp
  | _ => exact h.elim

end

section
variable (c : LockClass) (i : Str) (post : List Lock → Except Exc Val → Prop) (act : Nat → Prop)
  (progs : List (Prog (Except Exc Val))) (w0 : World)

/-- what the invariant says once every thread has returned and all of them took part -/
theorem sinv_final {fin : Conf} {done : List Nat} {cur : Option Nat} (h : SInv c i post act progs w0 fin done cur)
    (hall : fin.allFinished = true) (hact : ∀ j, j < progs.length → act j) :
    done.Nodup ∧ (∀ j, j ∈ done ↔ j < progs.length) ∧ fin.w = (seqRun progs done w0).1 ∧
    ∀ (j : Nat) (t : TState), fin.ts[j]? = some t → ∃ v, t = TState.finished v ∧ (j, v) ∈ (seqRun progs done w0).2 := by
  have hfin : ∀ (j : Nat) (t : TState), fin.ts[j]? = some t → ∃ v, t = TState.finished v := by
    intro j t ht
    have := List.all_eq_true.mp hall t (List.mem_of_getElem? ht)
    cases t with
    | finished v => exact ⟨v, rfl⟩
    | fresh p => simp at this
    | «at» e k => simp at this
  have hcur : cur = none := by
    cases hc : cur with
    | none => rfl
    | some a =>
      obtain ⟨_, _, t, p, _, ht, _, hf, _⟩ := h.curSome a hc
      obtain ⟨v, rfl⟩ := hfin a t ht
      exact hf.elim
  have hlen : fin.ts.length = progs.length := h.len
  have hall_done : ∀ j, j < progs.length → j ∈ done := by
    intro j hj
    apply Classical.byContradiction
    intro hnd
    have hjt : j < fin.ts.length := hlen ▸ hj
    have ht : fin.ts[j]? = some fin.ts[j] := List.getElem?_eq_getElem hjt
    have hp : progs[j]? = some progs[j] := List.getElem?_eq_getElem hj
    obtain ⟨v, hv⟩ := hfin j _ ht
    obtain ⟨hprog, k, hk, _⟩ := h.wait j _ _ (hact j hj) hnd (by rw [hcur]; intro e; cases e) ht hp
    rw [hv, hk] at hprog
    cases hprog
  refine ⟨h.nodup, ?_, (h.curNone hcur).2, ?_⟩
  · intro j
    exact ⟨h.dlt j, hall_done j⟩
  · intro j t ht
    obtain ⟨v, rfl⟩ := hfin j t ht
    have hj : j < progs.length := by
      rcases Nat.lt_or_ge j fin.ts.length with h1 | h1
      · exact hlen ▸ h1
      · rw [List.getElem?_eq_none h1] at ht; cases ht
    obtain ⟨v', hv', hmem⟩ := h.dret j (hall_done j hj) _ ht
    cases hv'
    exact ⟨v, rfl, hmem⟩

end

end HS
