/-
  StoreStep — what one primitive effect does to each part of the store. An effect touches at most
  one of the four directories of files, and there it writes one file whole, renames one to its
  marker, removes one, or (cid lists only) edits one in place.
-/
import HSModel.Store
namespace HS

namespace FMap
variable {K V : Type} [DecidableEq K]

/-- `rename k k'`: the file at `k` is now at `k'` (replacing what was there) -/
def rename (m : FMap K V) (k k' : K) : FMap K V :=
  match m.get k with
  | some v => (m.del k).set k' v
  | none => m

/-- `edit k f`: the file at `k` now holds `f` of what it held -/
def edit (m : FMap K V) (k : K) (f : V → V) : FMap K V :=
  match m.get k with
  | some v => m.set k (f v)
  | none => m

theorem get_set_some {m : FMap K V} {k j : K} {v u : V} (h : (m.set k v).get j = some u) :
    k = j ∧ v = u ∨ m.get j = some u := by
  rw [get_set] at h
  split at h
  · cases h; exact .inl ⟨‹_›, rfl⟩
  · exact .inr h

theorem get_del_some {m : FMap K V} {k j : K} {u : V} (h : (m.del k).get j = some u) : m.get j = some u := by
  rw [get_del] at h
  split at h
  · cases h
  · exact h

/-- a file found after a rename was there before, under its own name or under the old one -/
theorem get_rename_some {m : FMap K V} {k k' j : K} {u : V} (h : (m.rename k k').get j = some u) :
    k' = j ∧ m.get k = some u ∨ m.get j = some u := by
  unfold rename at h
  split at h
  · rcases get_set_some h with ⟨rfl, rfl⟩ | h
    · exact .inl ⟨rfl, ‹_›⟩
    · exact .inr (get_del_some h)
  · exact .inr h

theorem get_rename_ne (m : FMap K V) {k k' j : K} (h : k ≠ j) (h' : k' ≠ j) : (m.rename k k').get j = m.get j := by
  unfold rename
  split
  · rw [get_set_ne _ _ h', get_del_ne _ h]
  · rfl

theorem get_rename_self (m : FMap K V) {k k' : K} (h : k' ≠ k) : (m.rename k k').get k = none := by
  unfold rename
  split
  · rw [get_set_ne _ _ h, get_del_self]
  · assumption

theorem get_edit (m : FMap K V) (k j : K) (f : V → V) :
    (m.edit k f).get j = if k = j then (m.get k).map f else m.get j := by
  unfold edit
  split <;> rename_i h
  · rw [get_set]; split
    · rw [h]; rfl
    · rfl
  · split
    · subst j; rw [h]; rfl
    · rfl

end FMap

namespace Store
variable {s s' : Store} {x : Eff}

/-- The store an effect leaves when it succeeds, part by part: which effects change the part, and
    how. An effect changes at most one of the four directories, and one file in it (`retire`: two). -/
def after (s : Store) (x : Eff) : Store where
  objs := match x with
    | .publishObj c t => s.objs.set c t
    | .retire (.obj c) => s.objs.rename c (c ++ deleteSuffix)
    | .remove (.obj c) => s.objs.del c
    | _ => s.objs
  pidRefs := match x with
    | .publishPidRef k v => s.pidRefs.set k v
    | .retire (.pidRef k) => s.pidRefs.rename k (k ++ deleteSuffix)
    | .remove (.pidRef k) => s.pidRefs.del k
    | _ => s.pidRefs
  cidRefs := match x with
    | .publishCidRef c v => s.cidRefs.set c v
    | .retire (.cidRef c) => s.cidRefs.rename c (c ++ deleteSuffix)
    | .remove (.cidRef c) => s.cidRefs.del c
    | .appendCid c v => s.cidRefs.edit c (· ++ v)
    | .rewriteCid c v => s.cidRefs.edit c (overwritePrefix v)
    | .truncateCid c n => s.cidRefs.edit c (·.take n)
    | _ => s.cidRefs
  mdocs := match x with
    | .publishDoc d n t => s.mdocs.set (d, n) t
    | .retire (.mdoc d n) => s.mdocs.rename (d, n) (d, n ++ deleteSuffix)
    | .remove (.mdoc d n) => s.mdocs.del (d, n)
    | _ => s.mdocs
  tmpObj := match x with
    | .mkTmp .obj => s.tmpObj + 1
    | .removeTmp .obj | .publishObj _ _ => s.tmpObj - 1
    | _ => s.tmpObj
  tmpMeta := match x with
    | .mkTmp .mdata => s.tmpMeta + 1
    | .removeTmp .mdata | .publishDoc _ _ _ => s.tmpMeta - 1
    | _ => s.tmpMeta
  tmpRefs := match x with
    | .mkTmp .refs => s.tmpRefs + 1
    | .removeTmp .refs | .publishPidRef _ _ | .publishCidRef _ _ => s.tmpRefs - 1
    | _ => s.tmpRefs
  dirs := match x with
    | .mkdirs a k => (a, k) :: s.dirs
    | _ => s.dirs

private theorem of_guard {α : Type} {c : Prop} [Decidable c] {a b : α}
    (h : (if c then none else some a) = some b) : a = b := by
  split at h
  · cases h
  · exact Option.some.inj h

private theorem of_guard' {α : Type} {c : Bool} {a b : α}
    (h : (if c then some a else none) = some b) : a = b := by
  split at h
  · exact Option.some.inj h
  · cases h

theorem apply_eq_some (ha : s.apply x = some s') : s' = s.after x := by
  cases x with
  | mkdirs a k => cases ha; rfl
  | mkTmp a => cases ha; cases a <;> rfl
  | removeTmp a => cases of_guard ha; cases a <;> rfl
  | publishObj c t => cases of_guard ha; rfl
  | publishDoc d n t => cases of_guard ha; rfl
  | publishPidRef k v => cases of_guard ha; rfl
  | publishCidRef c v => cases of_guard ha; rfl
  | retire l =>
    cases l <;> obtain ⟨v, hv, rfl⟩ := Option.map_eq_some_iff.1 ha <;> simp only [after, FMap.rename, hv]
  | remove l => cases l <;> cases of_guard' ha <;> rfl
  | appendCid c v => obtain ⟨v, hv, rfl⟩ := Option.map_eq_some_iff.1 ha; simp only [after, FMap.edit, hv]
  | rewriteCid c v => obtain ⟨v, hv, rfl⟩ := Option.map_eq_some_iff.1 ha; simp only [after, FMap.edit, hv]
  | truncateCid c n => obtain ⟨v, hv, rfl⟩ := Option.map_eq_some_iff.1 ha; simp only [after, FMap.edit, hv]

end Store
end HS
