/-
  Exact — the concrete two-index invariant of the reference bookkeeping, and its
  preservation by the closed forms of the calls. Helper lemmas.
-/
import HSModel.Proofs.Closed
namespace HS

/-- not a deletion marker: the name does not end with `_delete`. Digests and
    identifier hashes are hexadecimal, hence plain. -/
def Plain (s : Str) : Prop := ¬ (deleteSuffix <:+ s)

theorem not_plain_marker (k : Str) : ¬ Plain (k ++ deleteSuffix) :=
  fun h => h (List.suffix_append k deleteSuffix)

theorem ne_marker_of_plain {j k : Str} (h : Plain j) : k ++ deleteSuffix ≠ j :=
  fun e => not_plain_marker k (e ▸ h)

/-- every pid reference is the hash of a well-formed pid that is listed by its
    cid; every cid list is the rendering of a non-empty duplicate-free list of
    well-formed pids, each of which is bound to exactly this cid; no temp residue -/
structure RefsExact (o : Oracle) (s : Store) : Prop where
  pid_listed : ∀ k c, s.pidRefs.get k = some c →
      ∃ p, k = o.hId p ∧ checkStringOk p = true ∧ ∃ t, s.cidRefs.get c = some t ∧ inRefs p t = true
  list_ok : ∀ c t, s.cidRefs.get c = some t →
      ∃ ls, t = renderLines ls ∧ ls ≠ [] ∧ ls.Nodup ∧
        ∀ p ∈ ls, checkStringOk p = true ∧ s.pidRefs.get (o.hId p) = some c
  no_tmp : s.tmpRefs = 0 ∧ s.tmpObj = 0
  cid_plain : ∀ c t, s.cidRefs.get c = some t → Plain c
  obj_plain : ∀ c x, s.objs.get c = some x → Plain c

theorem refsExact_empty (o : Oracle) : RefsExact o Store.empty :=
  ⟨by intro k c h; simp [Store.empty] at h, by intro c t h; simp [Store.empty] at h, ⟨rfl, rfl⟩,
   by intro c t h; simp [Store.empty] at h, by intro c t h; simp [Store.empty] at h⟩

theorem renderLines_inj (a b : List Str) (ha : ∀ l ∈ a, hasSpace l = false) (hb : ∀ l ∈ b, hasSpace l = false)
    (h : renderLines a = renderLines b) : a = b := by
  rw [← pyLines_render a ha, ← pyLines_render b hb, h]

variable (o : Oracle)

/-- changing only `dirs` keeps exactness -/
theorem refsExact_dirs (s : Store) (d : List (Area × Str)) (h : RefsExact o s) :
    RefsExact o { s with dirs := d } := ⟨h.pid_listed, h.list_ok, h.no_tmp, h.cid_plain, h.obj_plain⟩

theorem exact_tag_new_list (s : Store) (p c : Str) (d : List (Area × Str)) (h : RefsExact o s)
    (hp : checkStringOk p = true) (h1 : s.pidRefs.get (o.hId p) = none) (h2 : s.cidRefs.get c = none)
    (hcp : Plain c) :
    RefsExact o { s with pidRefs := s.pidRefs.set (o.hId p) c, cidRefs := s.cidRefs.set c (p ++ ['\n']),
                         dirs := d } := by
  have hr : p ++ ['\n'] = renderLines [p] := by simp [renderLines]
  have hsp := nospace_of_ok hp
  refine ⟨?_, ?_, h.no_tmp, ?_, h.obj_plain⟩
  rotate_left 2
  · intro c' t ht
    simp only at ht
    by_cases e : c = c'
    · exact e ▸ hcp
    · rw [FMap.get_set_ne _ _ e] at ht; exact h.cid_plain c' t ht
  · intro k c' hk
    simp only at hk ⊢
    by_cases e : o.hId p = k
    · subst e
      rw [FMap.get_set_self] at hk
      cases hk
      refine ⟨p, rfl, hp, p ++ ['\n'], by rw [FMap.get_set_self], ?_⟩
      rw [hr, inRefs_render p [p] (by intro l hl; simp at hl; subst hl; exact hsp)]; simp
    · rw [FMap.get_set_ne _ _ e] at hk
      obtain ⟨q, hq, hqok, t, ht, hin⟩ := h.pid_listed k c' hk
      have hc : c ≠ c' := by intro e2; subst e2; rw [h2] at ht; cases ht
      exact ⟨q, hq, hqok, t, by rw [FMap.get_set_ne _ _ hc]; exact ht, hin⟩
  · intro c' t ht
    simp only at ht ⊢
    by_cases e : c = c'
    · subst e
      rw [FMap.get_set_self] at ht
      cases ht
      refine ⟨[p], hr, by simp, by simp, ?_⟩
      intro q hq
      simp only [List.mem_singleton] at hq
      subst hq
      exact ⟨hp, by rw [FMap.get_set_self]⟩
    · rw [FMap.get_set_ne _ _ e] at ht
      obtain ⟨ls, hls, hne, hnd, hall⟩ := h.list_ok c' t ht
      refine ⟨ls, hls, hne, hnd, ?_⟩
      intro q hq
      obtain ⟨hqok, hqb⟩ := hall q hq
      refine ⟨hqok, ?_⟩
      have : o.hId p ≠ o.hId q := by intro e2; rw [e2] at h1; rw [h1] at hqb; cases hqb
      rw [FMap.get_set_ne _ _ this]; exact hqb

theorem exact_tag_append (s : Store) (p c : Str) (ls : List Str) (d : List (Area × Str)) (h : RefsExact o s)
    (hp : checkStringOk p = true) (h1 : s.pidRefs.get (o.hId p) = none)
    (h2 : s.cidRefs.get c = some (renderLines ls)) (hsp : ∀ l ∈ ls, hasSpace l = false) :
    RefsExact o { s with pidRefs := s.pidRefs.set (o.hId p) c, cidRefs := s.cidRefs.set c (renderLines (ls ++ [p])),
                         dirs := d } := by
  obtain ⟨ls0, hls0, hne0, hnd0, hall0⟩ := h.list_ok c _ h2
  have hsp0 : ∀ l ∈ ls0, hasSpace l = false := fun l hl => nospace_of_ok (hall0 l hl).1
  have hls : ls = ls0 := renderLines_inj ls ls0 hsp hsp0 hls0
  subst hls
  have hpsp := nospace_of_ok hp
  have hsp' : ∀ l ∈ ls ++ [p], hasSpace l = false := by
    intro l hl
    rcases List.mem_append.mp hl with h' | h'
    · exact hsp l h'
    · simp at h'; subst h'; exact hpsp
  have hnot : p ∉ ls := by
    intro hin
    have := (hall0 p hin).2
    rw [h1] at this; cases this
  refine ⟨?_, ?_, h.no_tmp, ?_, h.obj_plain⟩
  rotate_left 2
  · intro c' t ht
    simp only at ht
    by_cases e : c = c'
    · exact e ▸ h.cid_plain c _ h2
    · rw [FMap.get_set_ne _ _ e] at ht; exact h.cid_plain c' t ht
  · intro k c' hk
    simp only at hk ⊢
    by_cases e : o.hId p = k
    · subst e
      rw [FMap.get_set_self] at hk
      cases hk
      refine ⟨p, rfl, hp, _, by rw [FMap.get_set_self], ?_⟩
      rw [inRefs_render p _ hsp']; simp
    · rw [FMap.get_set_ne _ _ e] at hk
      obtain ⟨q, hq, hqok, t, ht, hin⟩ := h.pid_listed k c' hk
      by_cases hc : c = c'
      · subst hc
        rw [h2] at ht
        cases ht
        refine ⟨q, hq, hqok, _, by rw [FMap.get_set_self], ?_⟩
        rw [inRefs_render q ls hsp] at hin
        rw [inRefs_render q _ hsp']
        simp only [List.contains_eq_mem, decide_eq_true_eq] at hin ⊢
        exact List.mem_append_left _ hin
      · exact ⟨q, hq, hqok, t, by rw [FMap.get_set_ne _ _ hc]; exact ht, hin⟩
  · intro c' t ht
    simp only at ht ⊢
    by_cases e : c = c'
    · subst e
      rw [FMap.get_set_self] at ht
      cases ht
      refine ⟨ls ++ [p], rfl, by simp, ?_, ?_⟩
      · rw [List.nodup_append]
        refine ⟨hnd0, by simp, ?_⟩
        intro a ha b hb
        simp at hb; subst hb
        intro e2; subst e2; exact hnot ha
      · intro q hq
        rcases List.mem_append.mp hq with hq | hq
        · obtain ⟨hqok, hqb⟩ := hall0 q hq
          refine ⟨hqok, ?_⟩
          have : o.hId p ≠ o.hId q := by intro e2; rw [e2] at h1; rw [h1] at hqb; cases hqb
          rw [FMap.get_set_ne _ _ this]; exact hqb
        · simp at hq; subst hq
          exact ⟨hp, by rw [FMap.get_set_self]⟩
    · rw [FMap.get_set_ne _ _ e] at ht
      obtain ⟨ls', hls', hne, hnd, hall⟩ := h.list_ok c' t ht
      refine ⟨ls', hls', hne, hnd, ?_⟩
      intro q hq
      obtain ⟨hqok, hqb⟩ := hall q hq
      refine ⟨hqok, ?_⟩
      have : o.hId p ≠ o.hId q := by intro e2; rw [e2] at h1; rw [h1] at hqb; cases hqb
      rw [FMap.get_set_ne _ _ this]; exact hqb

end HS

namespace HS
variable (cfg : Config) (o : Oracle)

theorem calm_st (st : Store) (log : List Eff) : (calm st log).st = st := rfl

/-- `tag_object` (any arguments), run with only object-pid locks held: ends in
    a world of the same kind, and preserves the two-index invariant -/
theorem tag_run (l : List Str) (st : Store) (log : List Eff) (pid cid : SArg) (h : RefsExact o st)
    (hcp : ∀ c, cid = .str c → Plain c) :
    ∃ r st' log', (tagObject cfg o pid cid).run (calmL l st log) = (r, calmL l st' log') ∧
      RefsExact o st' ∧ st'.objs = st.objs := by
  cases hpc : checkString pid with
  | error e =>
    refine ⟨.error e, st, log, ?_, h, rfl⟩
    simp [tagObject, runeq, hpc, calmL]
  | ok p =>
    cases hcc : checkString cid with
    | error e =>
      refine ⟨.error e, st, log, ?_, h, rfl⟩
      simp [tagObject, runeq, hpc, hcc, calmL]
    | ok c =>
      have hp1 : pid = .str p := by
        cases pid <;> simp [checkString] at hpc
        rename_i s; split at hpc <;> simp_all
      have hc1 : cid = .str c := by
        cases cid <;> simp [checkString] at hcc
        rename_i s; split at hcc <;> simp_all
      subst hp1 hc1
      have hp : checkStringOk p = true := by
        simp only [checkString] at hpc; split at hpc <;> simp_all
      have hc : checkStringOk c = true := by
        simp only [checkString] at hcc; split at hcc <;> simp_all
      cases h1 : st.pidRefs.get (o.hId p) with
      | some x =>
        cases h2 : st.cidRefs.get c with
        | some t => exact ⟨_, _, _, tag_both cfg o l st log p c x t hp hc h1 h2, refsExact_dirs o st _ h, rfl⟩
        | none => exact ⟨_, _, _, tag_pid_only cfg o l st log p c x hp hc h1 h2, refsExact_dirs o st _ h, rfl⟩
      | none =>
        cases h2 : st.cidRefs.get c with
        | some t =>
          obtain ⟨ls, hls, hne, hnd, hall⟩ := h.list_ok c t h2
          subst hls
          have hsp : ∀ l ∈ ls, hasSpace l = false := fun l hl => nospace_of_ok (hall l hl).1
          have hnot : p ∉ ls := by
            intro hin; have := (hall p hin).2; rw [h1] at this; cases this
          exact ⟨_, _, _, tag_cid_only cfg o l st log p c ls hp hc h1 h2 hsp hnot,
            exact_tag_append o st p c ls _ h hp h1 h2 hsp, rfl⟩
        | none =>
          exact ⟨_, _, _, tag_neither cfg o l st log p c hp hc h1 h2,
            exact_tag_new_list o st p c _ h hp h1 h2 (hcp c rfl), rfl⟩

/-- `tag_object` (any arguments) preserves the two-index invariant -/
theorem tag_exact (st : Store) (log : List Eff) (pid cid : SArg) (h : RefsExact o st)
    (hcp : ∀ c, cid = .str c → Plain c) :
    RefsExact o ((tagObject cfg o pid cid).run (calm st log)).2.st := by
  obtain ⟨r, st', log', hrun, hex, _⟩ := tag_run cfg o [] st log pid cid h hcp
  unfold calm
  rw [hrun]; exact hex

end HS
