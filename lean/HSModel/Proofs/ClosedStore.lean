/-
  ClosedStore — the sequential run of `_move_and_get_checksums` and of
  `store_object` from a world with no fault plan. Helper lemmas.
-/
import HSModel.Proofs.ExactDelete
namespace HS
variable (cfg : Config) (o : Oracle)

/-- what placing the object leaves: references untouched, no temp residue, the
    only address that can appear is the content's own -/
structure Placed (t : Tok) (st st' : Store) : Prop where
  pid : st'.pidRefs = st.pidRefs
  cid : st'.cidRefs = st.cidRefs
  tr  : st'.tmpRefs = st.tmpRefs
  to  : st'.tmpObj = st.tmpObj
  obj : ∀ j x, st'.objs.get j = some x → st.objs.get j = some x ∨ j = o.dig cfg.alg t

/-- placing the object under a pid: result and object map spelled out -/
theorem mv_run_pid_spec (l : List Str) (st : Store) (log : List Eff) (p : Str) (t : Tok) (add cs cks : Option Str)
    (expSize : IArg) :
    let digests := (refineAlgorithmList defaultAlgos add cs).map fun a => (a, o.dig a t)
    let v := verdict digests (fun a => o.dig a t) (o.size t) expSize cks cs
    let cid := o.dig cfg.alg t
    ∃ st' log', (moveAndGetChecksums cfg o (some p) t add cs cks expSize).run (calmL l st log) =
        ((match v.exc with
          | some e => Except.error e
          | none => Except.ok { cid := cid, size := o.size t, digests := digests }), calmL l st' log') ∧
      st'.pidRefs = st.pidRefs ∧ st'.cidRefs = st.cidRefs ∧ st'.tmpRefs = st.tmpRefs ∧ st'.tmpObj = st.tmpObj ∧
      st'.mdocs = st.mdocs ∧ st'.tmpMeta = st.tmpMeta ∧ (∀ x ∈ st.dirs, x ∈ st'.dirs) ∧
      (∀ j, st'.objs.get j =
        if v.exc = none ∧ st.objs.get cid = none ∧ cid = j then some t else st.objs.get j) := by
  intro digests v cid
  have hrun := run_moveAndGetChecksums cfg o st { objPid := l } log (some p) t add cs cks expSize
  simp only [Abs.objMetaOf] at hrun
  unfold calmL
  rw [hrun]
  cases hv : v.exc <;> cases ho : st.objs.get cid
  all_goals simp only [v, digests, cid] at hv ho; simp only [hv, ho]
  · exact ⟨_, _, rfl, rfl, rfl, rfl, rfl, rfl, rfl, fun x hx => List.mem_cons_of_mem _ hx,
      fun j => by simp [FMap.get_set, cid]⟩
  all_goals exact ⟨_, _, rfl, rfl, rfl, rfl, rfl, rfl, rfl, fun x hx => hx, fun j => by simp⟩

/-- the data-only placement, result and object map spelled out -/
theorem mv_run_data_spec (l : List Str) (st : Store) (log : List Eff) (t : Tok) :
    let digests := (refineAlgorithmList defaultAlgos none none).map fun a => (a, o.dig a t)
    let cid := o.dig cfg.alg t
    ∃ st' log', (moveAndGetChecksums cfg o none t none none none .none).run (calmL l st log) =
        (Except.ok { cid := cid, size := o.size t, digests := digests }, calmL l st' log') ∧
      st'.pidRefs = st.pidRefs ∧ st'.cidRefs = st.cidRefs ∧ st'.tmpRefs = st.tmpRefs ∧ st'.tmpObj = st.tmpObj ∧
      st'.mdocs = st.mdocs ∧ st'.tmpMeta = st.tmpMeta ∧ (∀ x ∈ st.dirs, x ∈ st'.dirs) ∧
      (∀ j, st'.objs.get j = if st.objs.get cid = none ∧ cid = j then some t else st.objs.get j) := by
  intro digests cid
  have hrun := run_moveAndGetChecksums cfg o st { objPid := l } log none t none none none .none
  have hv : (verdict ((refineAlgorithmList defaultAlgos none none).map fun a => (a, o.dig a t)) (fun a => o.dig a t)
      (o.size t) .none none none).exc = none := by
    simp [verdict, sizeMismatch, Verdict.exc]
  simp only [Abs.objMetaOf, hv] at hrun
  unfold calmL
  rw [hrun]
  cases ho : st.objs.get cid
  all_goals simp only [cid] at ho; simp only [ho]
  · exact ⟨_, _, rfl, rfl, rfl, rfl, rfl, rfl, rfl, fun x hx => List.mem_cons_of_mem _ hx,
      fun j => by simp [FMap.get_set, cid]⟩
  · exact ⟨_, _, rfl, rfl, rfl, rfl, rfl, rfl, rfl, fun x hx => hx, fun j => by simp⟩

/-- digests are never deletion markers (they are hexadecimal) -/
def PlainDigests : Prop := ∀ a t, Plain (o.dig a t)

theorem exact_placed (st st' : Store) (t : Tok) (h : RefsExact o st) (hp : Placed cfg o t st st')
    (hpl : Plain (o.dig cfg.alg t)) : RefsExact o st' := by
  refine ⟨?_, ?_, ?_, ?_, ?_⟩
  · intro k c hk; rw [hp.pid] at hk; rw [hp.cid]; exact h.pid_listed k c hk
  · intro c x hc; rw [hp.cid] at hc; rw [hp.pid]; exact h.list_ok c x hc
  · rw [hp.tr, hp.to]; exact h.no_tmp
  · intro c x hc; rw [hp.cid] at hc; exact h.cid_plain c x hc
  · intro c x hc
    rcases hp.obj c x hc with h' | h'
    · exact h.obj_plain c x h'
    · exact h' ▸ hpl

theorem storeObject_pid_unfold (pid : SArg) (data : DataArg) (additional checksum csAlg : SArg) (expSize : IArg)
    (hnone : pid ≠ .none) :
    storeObject cfg o pid data additional checksum csAlg expSize =
      (do
        let p ← PE.ofExcept (checkString pid)
        PE.ofExcept (checkArgData data)
        PE.ofExcept (checkInteger expSize)
        let (add', cs') ← PE.ofExcept (checkArgAlgorithmsAndChecksum cfg.alg additional checksum csAlg)
        if ← inProgress p then throw Exc.storeObjectInProgress
        PE.withFinally (do
            acquire .objPid p
            let t ← PE.ofExcept (openStream data)
            let m ← moveAndGetChecksums cfg o (some p) t add' cs' (strArg checksum) expSize
            let _ ← tagObject cfg o (.str p) (.str m.cid)
            return .objMeta m)
          (release .objPid p) : PE Val) := by
  cases pid with
  | none => exact absurd rfl hnone
  | other => rfl
  | str s => rfl

/-- `store_object(pid, …)` from a calm world: the argument checks are those of the specification
    (`Abs.storeArgs`); what remains is placing the object and tagging it under the pid's lock -/
theorem run_storeObject (st : Store) (log : List Eff) (pid : SArg) (data : DataArg) (additional checksum csAlg : SArg)
    (expSize : IArg) (hnone : pid ≠ .none) :
    (storeObject cfg o pid data additional checksum csAlg expSize).run (calm st log) =
      match Abs.storeArgs cfg pid data additional checksum csAlg expSize with
      | .error e => (.error e, calm st log)
      | .ok (p, add', cs', t) =>
        Prog.run (PE.withFinally (do
            let m ← moveAndGetChecksums cfg o (some p) t add' cs' (strArg checksum) expSize
            let _ ← tagObject cfg o (.str p) (.str m.cid)
            return .objMeta m) (release .objPid p)) (calmL [p] st log) := by
  rw [storeObject_pid_unfold cfg o pid data additional checksum csAlg expSize hnone]
  unfold Abs.storeArgs
  cases checkString pid with
  | error e => simp [runeq]
  | ok p =>
    cases checkArgData data with
    | error e => simp [runeq]
    | ok _ =>
      cases checkInteger expSize with
      | error e => simp [runeq]
      | ok _ =>
        cases checkArgAlgorithmsAndChecksum cfg.alg additional checksum csAlg with
        | error e => simp [runeq]
        | ok ac => cases openStream data <;> simp [runeq, calm, calmL]

theorem placed_of_spec {t : Tok} {st st' : Store} {P : Str → Prop} [∀ j, Decidable (P j)]
    (f1 : st'.pidRefs = st.pidRefs) (f2 : st'.cidRefs = st.cidRefs) (f3 : st'.tmpRefs = st.tmpRefs)
    (f4 : st'.tmpObj = st.tmpObj) (hP : ∀ j, P j → o.dig cfg.alg t = j)
    (f8 : ∀ j, st'.objs.get j = if P j then some t else st.objs.get j) : Placed cfg o t st st' := by
  refine ⟨f1, f2, f3, f4, fun j x hx => ?_⟩
  rw [f8] at hx
  split at hx
  · exact .inr (hP j ‹_›).symm
  · exact .inl hx

theorem store_exact (st : Store) (log : List Eff) (pid : SArg) (data : DataArg) (additional checksum csAlg : SArg)
    (expSize : IArg) (h : RefsExact o st) (hpd : PlainDigests o) :
    RefsExact o ((storeObject cfg o pid data additional checksum csAlg expSize).run (calm st log)).2.st := by
  by_cases hnone : pid = .none
  · subst hnone
    cases hd : checkArgData data with
    | error e => simpa [storeObject, runeq, hd, calm, calmL] using h
    | ok _ =>
      cases hs : openStream data with
      | error e => simpa [storeObject, runeq, hd, hs, calm, calmL] using h
      | ok t =>
        obtain ⟨st', log', hrun, f1, f2, f3, f4, _, _, _, f8⟩ := mv_run_data_spec cfg o [] st log t
        have hpl : Placed cfg o t st st' := placed_of_spec cfg o f1 f2 f3 f4 (fun j h => h.2) f8
        simp only [calmL] at hrun
        simpa [storeObject, runeq, hd, hs, calm, calmL, hrun] using exact_placed cfg o st st' t h hpl (hpd _ _)
  · rw [run_storeObject cfg o st log pid data additional checksum csAlg expSize hnone]
    cases Abs.storeArgs cfg pid data additional checksum csAlg expSize with
    | error e => exact h
    | ok x =>
      obtain ⟨p, add', cs', t⟩ := x
      obtain ⟨st1, log1, hrun, f1, f2, f3, f4, _, _, _, f8⟩ :=
        mv_run_pid_spec cfg o [p] st log p t add' cs' (strArg checksum) expSize
      have h1 : RefsExact o st1 :=
        exact_placed cfg o st st1 t h (placed_of_spec cfg o f1 f2 f3 f4 (fun j h => h.2.2) f8) (hpd _ _)
      simp only [calmL] at hrun
      cases hv : (verdict ((refineAlgorithmList defaultAlgos add' cs').map fun a => (a, o.dig a t))
          (fun a => o.dig a t) (o.size t) expSize (strArg checksum) cs').exc with
      | some e =>
        rw [hv] at hrun
        simpa [runeq, calmL, hrun] using h1
      | none =>
        rw [hv] at hrun
        obtain ⟨r2, st2, log2, hrun2, h2, _⟩ := tag_run cfg o [p] st1 log1 (.str p) (.str (o.dig cfg.alg t)) h1
          (by intro c hc; cases hc; exact hpd _ _)
        simp only [calmL] at hrun2
        cases r2 <;> simpa [runeq, calmL, hrun, hrun2] using h2

end HS
