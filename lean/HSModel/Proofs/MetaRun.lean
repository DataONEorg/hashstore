/-
  MetaRun — what `delete_metadata` does when run sequentially in a world with
  no fault plan and a free document list: it returns normally, touches only
  metadata documents, and leaves the lock lists as they were. Helper lemmas.
-/
import HSModel.Proofs.Closed
namespace HS

/-- the parts of a world `delete_metadata` must not touch -/
structure SameRefs (w w' : World) : Prop where
  pid : w'.st.pidRefs = w.st.pidRefs
  cid : w'.st.cidRefs = w.st.cidRefs
  obj : w'.st.objs = w.st.objs
  tr  : w'.st.tmpRefs = w.st.tmpRefs
  to  : w'.st.tmpObj = w.st.tmpObj
  lk  : w'.lk = w.lk
  nf  : w'.fault = w.fault

theorem SameRefs.refl (w : World) : SameRefs w w := ⟨rfl, rfl, rfl, rfl, rfl, rfl, rfl⟩

theorem SameRefs.trans {a b c : World} (h1 : SameRefs a b) (h2 : SameRefs b c) : SameRefs a c :=
  ⟨h2.pid.trans h1.pid, h2.cid.trans h1.cid, h2.obj.trans h1.obj, h2.tr.trans h1.tr, h2.to.trans h1.to,
   h2.lk.trans h1.lk, h2.nf.trans h1.nf⟩

/-- removing metadata markers: never fails (errors are swallowed), touches only documents -/
theorem deleteMarked_mdocs (names : List (Str × Str)) (w : World) (hnf : w.fault = none) :
    ∃ w', (deleteMarked (names.map fun dn => Loc.mdoc dn.1 dn.2)).run w = (.ok (), w') ∧ SameRefs w w' := by
  induction names generalizing w with
  | nil => exact ⟨w, rfl, SameRefs.refl w⟩
  | cons a r ih =>
    obtain ⟨d, n⟩ := a
    cases hc : w.st.mdocs.contains (d, n) with
    | true =>
      let w1 : World := { w with st := { w.st with mdocs := w.st.mdocs.del (d, n) },
                                 log := w.log ++ [Eff.remove (.mdoc d n)] }
      obtain ⟨w', hr, hs⟩ := ih w1 hnf
      refine ⟨w', ?_, SameRefs.trans (show SameRefs w w1 from ⟨rfl, rfl, rfl, rfl, rfl, rfl, rfl⟩) hs⟩
      obtain ⟨st, lk, fault, log⟩ := w
      simp only [FMap.contains] at hnf hc
      subst hnf
      simp only [List.map_cons, deleteMarked]
      simp [runsimp, hc]
      exact hr
    | false =>
      obtain ⟨w', hr, hs⟩ := ih w hnf
      refine ⟨w', ?_, hs⟩
      obtain ⟨st, lk, fault, log⟩ := w
      simp only [FMap.contains] at hnf hc
      subst hnf
      simp only [List.map_cons, deleteMarked]
      simp [runsimp, hc]
      exact hr


theorem nodup_eraseDups_aux {α : Type} [BEq α] [LawfulBEq α] :
    ∀ (n : Nat) (l : List α), l.length ≤ n → l.eraseDups.Nodup
  | _, [], _ => by simp
  | 0, _ :: _, h => by simp at h
  | n + 1, a :: as, h => by
    rw [List.eraseDups_cons]
    refine List.nodup_cons.2 ⟨?_, nodup_eraseDups_aux n _ ?_⟩
    · intro hm
      rw [List.mem_eraseDups] at hm
      simp at hm
    · have := List.length_filter_le (fun b => !b == a) as
      simp at h
      omega

theorem FMap.getL_isSome_of_mem {K V : Type} [DecidableEq K] {l : List (K × V)} {k : K} {v : V}
    (h : (k, v) ∈ l) : (FMap.getL l k).isSome = true := by
  induction l with
  | nil => cases h
  | cons a r ih =>
    obtain ⟨k', v'⟩ := a
    by_cases hk : k' = k
    · simp [FMap.getL, hk]
    · have : (k, v) ∈ r := by
        rcases List.mem_cons.1 h with h | h
        · exact absurd (congrArg Prod.fst h).symm hk
        · exact h
      simp [FMap.getL, hk, ih this]

theorem mem_insertStr (x y : Str) (l : List Str) : y ∈ insertStr x l ↔ y = x ∨ y ∈ l := by
  induction l with
  | nil => simp [insertStr]
  | cons a r ih =>
    unfold insertStr
    split
    · simp
    · simp [ih]; constructor <;> (intro h; rcases h with h | h | h <;> simp [h])

theorem mem_sortStrs (y : Str) (l : List Str) : y ∈ sortStrs l ↔ y ∈ l := by
  induction l with
  | nil => simp [sortStrs]
  | cons a r ih =>
    have : sortStrs (a :: r) = insertStr a (sortStrs r) := rfl
    rw [this, mem_insertStr, ih]; simp

theorem nodup_insertStr (x : Str) (l : List Str) (hx : x ∉ l) (hl : l.Nodup) : (insertStr x l).Nodup := by
  induction l with
  | nil => simp [insertStr]
  | cons a r ih =>
    unfold insertStr
    have hr := (List.nodup_cons.1 hl)
    split
    · exact List.nodup_cons.2 ⟨hx, hl⟩
    · refine List.nodup_cons.2 ⟨?_, ih (fun h => hx (List.mem_cons_of_mem _ h)) hr.2⟩
      intro h
      rcases (mem_insertStr x a r).1 h with h | h
      · exact hx (by simp [h])
      · exact hr.1 h

theorem nodup_sortStrs (l : List Str) (hl : l.Nodup) : (sortStrs l).Nodup := by
  induction l with
  | nil => simp [sortStrs]
  | cons a r ih =>
    have : sortStrs (a :: r) = insertStr a (sortStrs r) := rfl
    rw [this]
    have hr := List.nodup_cons.1 hl
    exact nodup_insertStr a _ (fun h => hr.1 ((mem_sortStrs a r).1 h)) (ih hr.2)

/-- every name the directory listing returns is a present document; no name twice -/
theorem listDocs_spec (s : Store) (dir : Str) :
    (s.listDocs dir).Nodup ∧ ∀ n ∈ s.listDocs dir, (s.mdocs.get (dir, n)).isSome = true := by
  unfold Store.listDocs
  constructor
  · exact nodup_sortStrs _ (nodup_eraseDups_aux _ _ (Nat.le_refl _))
  · intro n hn
    rw [mem_sortStrs, List.mem_eraseDups] at hn
    obtain ⟨e, he, hen⟩ := List.mem_map.1 hn
    obtain ⟨hmem, hd⟩ := List.mem_filter.1 he
    obtain ⟨⟨d, n'⟩, v⟩ := e
    simp at hd hen
    subst hd; subst hen
    exact FMap.getL_isSome_of_mem hmem

/-- the retire loop of delete-all: every listed name is still there when its
    turn comes, every per-document lock is free, so nothing fails -/
theorem retireDocs_run (dir : Str) (names : List Str) (w : World) (hnf : w.fault = none)
    (hdoc : w.lk.doc = []) (hnd : names.Nodup)
    (hpres : ∀ n ∈ names, (w.st.mdocs.get (dir, n)).isSome = true) :
    ∃ w', (retireDocs dir names).run w = (.ok (names.map fun n => Loc.marker (.mdoc dir n)), w') ∧
      SameRefs w w' := by
  induction names generalizing w with
  | nil => exact ⟨w, rfl, SameRefs.refl w⟩
  | cons n r ih =>
    have hn := hpres n (by simp)
    obtain ⟨v, hv⟩ := Option.isSome_iff_exists.1 hn
    have hr := List.nodup_cons.1 hnd
    let w1 : World := { w with st := { w.st with mdocs := (w.st.mdocs.del (dir, n)).set (dir, n ++ deleteSuffix) v },
                               log := w.log ++ [Eff.retire (.mdoc dir n)] }
    have hp1 : ∀ m ∈ r, (w1.st.mdocs.get (dir, m)).isSome = true := by
      intro m hm
      have hne : n ≠ m := fun h => hr.1 (h ▸ hm)
      show (((w.st.mdocs.del (dir, n)).set (dir, n ++ deleteSuffix) v).get (dir, m)).isSome = true
      rw [FMap.get_set]
      split
      · rfl
      · rw [FMap.get_del_ne _ (by intro h; exact hne (by injection h))]
        exact hpres m (List.mem_cons_of_mem _ hm)
    obtain ⟨w', hrun, hs⟩ := ih w1 hnf hdoc hr.2 hp1
    refine ⟨w', ?_, SameRefs.trans (show SameRefs w w1 from ⟨rfl, rfl, rfl, rfl, rfl, rfl, rfl⟩) hs⟩
    obtain ⟨st, lk, fault, log⟩ := w
    simp only at hnf hdoc hv
    subst hnf
    obtain ⟨l1, l2, l3, l4⟩ := lk
    simp only at hdoc
    subst hdoc
    simp only [retireDocs, withDocLock]
    simp [runsimp, hv]
    simp only [w1] at hrun
    rw [Prog.run_bind_pe, hrun]
    rfl


/-- `delete_metadata` run sequentially, no fault plan, document list free:
    returns normally and touches nothing but documents -/
theorem deleteMetadataCore_run (o : Oracle) (p : Str) (fmt : Option Str) (w : World)
    (hnf : w.fault = none) (hdoc : w.lk.doc = []) :
    ∃ w', (deleteMetadataCore o p fmt).run w = (.ok (), w') ∧ SameRefs w w' := by
  cases fmt with
  | none =>
    by_cases hd : (Area.mdata, o.hId p) ∈ w.st.dirs
    · obtain ⟨hnd, hpres⟩ := listDocs_spec w.st (o.hId p)
      obtain ⟨w1, h1, s1⟩ := retireDocs_run (o.hId p) (w.st.listDocs (o.hId p)) w hnf hdoc hnd hpres
      obtain ⟨w2, h2, s2⟩ := deleteMarked_mdocs ((w.st.listDocs (o.hId p)).map fun n => (o.hId p, n ++ deleteSuffix))
        w1 (s1.nf.trans hnf)
      refine ⟨w2, ?_, s1.trans s2⟩
      obtain ⟨st, lk, fault, log⟩ := w
      simp only at hnf hd
      subst hnf
      simp only [deleteMetadataCore]
      simp [runsimp, hd]
      rw [Prog.run_bind_pe, h1]
      simp only [List.map_map] at h2
      exact h2
    · refine ⟨w, ?_, SameRefs.refl w⟩
      obtain ⟨st, lk, fault, log⟩ := w
      simp only at hnf hd
      subst hnf
      simp only [deleteMetadataCore]
      simp [runsimp, hd]
  | some f =>
    obtain ⟨st, lk, fault, log⟩ := w
    obtain ⟨l1, l2, l3, l4⟩ := lk
    simp only at hnf hdoc
    subst hnf; subst hdoc
    simp only [deleteMetadataCore, withDocLock]
    cases hc : (st.mdocs.get (o.hId p, o.hId (p ++ f))).isSome with
    | true =>
      refine ⟨{ st := { st with mdocs := st.mdocs.del (o.hId p, o.hId (p ++ f)) },
                lk := { objPid := l1, refPid := l2, cid := l3 },
                log := log ++ [Eff.remove (.mdoc (o.hId p) (o.hId (p ++ f)))] }, ?_, ?_⟩
      · simp [runsimp, hc]
      · exact ⟨rfl, rfl, rfl, rfl, rfl, rfl, rfl⟩
    | false =>
      refine ⟨{ st := st, lk := { objPid := l1, refPid := l2, cid := l3 }, log := log }, ?_, ?_⟩
      · simp [runsimp, hc]
      · exact ⟨rfl, rfl, rfl, rfl, rfl, rfl, rfl⟩


/-- the world `delete_metadata` leaves -/
def dmcWorld (o : Oracle) (p : Str) (fmt : Option Str) (w : World) : World :=
  ((deleteMetadataCore o p fmt).run w).2

theorem dmc_run_eq (o : Oracle) (p : Str) (fmt : Option Str) (w : World)
    (hnf : w.fault = none) (hdoc : w.lk.doc = []) :
    Prog.run (deleteMetadataCore o p fmt) w = (.ok (), dmcWorld o p fmt w) := by
  obtain ⟨w', h, _⟩ := deleteMetadataCore_run o p fmt w hnf hdoc
  unfold dmcWorld
  rw [h]

theorem dmc_same (o : Oracle) (p : Str) (fmt : Option Str) (w : World)
    (hnf : w.fault = none) (hdoc : w.lk.doc = []) : SameRefs w (dmcWorld o p fmt w) := by
  obtain ⟨w', h, hs⟩ := deleteMetadataCore_run o p fmt w hnf hdoc
  unfold dmcWorld
  rw [h]; exact hs

theorem dmc_lk (o : Oracle) (p : Str) (fmt : Option Str) (w : World)
    (hnf : w.fault = none) (hdoc : w.lk.doc = []) : (dmcWorld o p fmt w).lk = w.lk :=
  (dmc_same o p fmt w hnf hdoc).lk

theorem dmc_fault (o : Oracle) (p : Str) (fmt : Option Str) (w : World)
    (hnf : w.fault = none) (hdoc : w.lk.doc = []) : (dmcWorld o p fmt w).fault = none :=
  (dmc_same o p fmt w hnf hdoc).nf.trans hnf


theorem dmc_pid (o : Oracle) (p : Str) (fmt : Option Str) (w : World)
    (hnf : w.fault = none) (hdoc : w.lk.doc = []) : (dmcWorld o p fmt w).st.pidRefs = w.st.pidRefs :=
  (dmc_same o p fmt w hnf hdoc).pid
theorem dmc_cid (o : Oracle) (p : Str) (fmt : Option Str) (w : World)
    (hnf : w.fault = none) (hdoc : w.lk.doc = []) : (dmcWorld o p fmt w).st.cidRefs = w.st.cidRefs :=
  (dmc_same o p fmt w hnf hdoc).cid
theorem dmc_obj (o : Oracle) (p : Str) (fmt : Option Str) (w : World)
    (hnf : w.fault = none) (hdoc : w.lk.doc = []) : (dmcWorld o p fmt w).st.objs = w.st.objs :=
  (dmc_same o p fmt w hnf hdoc).obj
theorem dmc_tr (o : Oracle) (p : Str) (fmt : Option Str) (w : World)
    (hnf : w.fault = none) (hdoc : w.lk.doc = []) : (dmcWorld o p fmt w).st.tmpRefs = w.st.tmpRefs :=
  (dmc_same o p fmt w hnf hdoc).tr
theorem dmc_to (o : Oracle) (p : Str) (fmt : Option Str) (w : World)
    (hnf : w.fault = none) (hdoc : w.lk.doc = []) : (dmcWorld o p fmt w).st.tmpObj = w.st.tmpObj :=
  (dmc_same o p fmt w hnf hdoc).to

end HS
