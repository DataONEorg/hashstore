/-
  Respond — what one primitive changes in the world. The fault plan moves by `faultStep` alone; of
  the rest a primitive changes nothing, or (an effect that succeeds) the store and the log, or (a
  lock operation that succeeds) one lock list.
-/
import HSModel.Prog
namespace HS

theorem faultStep_snd (w : World) (e : Ev) : (faultStep w e).2 = { w with fault := (faultStep w e).2.fault } := by
  obtain ⟨st, lk, fault, log⟩ := w
  cases fault <;> rfl

theorem faultStep_st (w : World) (e : Ev) : (faultStep w e).2.st = w.st := by rw [faultStep_snd]
theorem faultStep_lk (w : World) (e : Ev) : (faultStep w e).2.lk = w.lk := by rw [faultStep_snd]
theorem faultStep_log (w : World) (e : Ev) : (faultStep w e).2.log = w.log := by rw [faultStep_snd]

/-- a primitive that passes no fault site is never made to fail, and leaves the plan as it is -/
theorem faultStep_of_no_sites {e : Ev} (h : e.sites = []) (w : World) : faultStep w e = (false, w) := by
  obtain ⟨st, lk, fault, log⟩ := w
  cases fault with
  | none => rfl
  | some f => simp [faultStep, Fault.check, h]

theorem respond_of_no_sites {e : Ev} (h : e.sites = []) (w : World) : respond w e = respondCore w e := by
  unfold respond; rw [faultStep_of_no_sites h]; rfl

theorem respond_acquire (w : World) (c : LockClass) (i : Str) :
    respond w (.acquire c i) =
      if i ∈ w.lk.get c then (.err .blocked, w) else (.unit, { w with lk := w.lk.put c (w.lk.get c ++ [i]) }) :=
  respond_of_no_sites rfl w

theorem respond_release (w : World) (c : LockClass) (i : Str) :
    respond w (.release c i) =
      if i ∈ w.lk.get c then (.unit, { w with lk := w.lk.put c ((w.lk.get c).erase i) }) else (.err .valueError, w) :=
  respond_of_no_sites rfl w

/-- the core answer does not look at the plan, and carries it along -/
theorem respondCore_fault (w : World) (f : Option Fault) (e : Ev) :
    respondCore { w with fault := f } e = ((respondCore w e).1, { (respondCore w e).2 with fault := f }) := by
  cases e <;> simp only [respondCore, applyEff] <;> (repeat' split) <;> rfl

/-- an answer is the injected error or the core's answer from the same store and lock lists -/
theorem respond_fst (w : World) (e : Ev) :
    (respond w e).1 = .err .osError ∨ (respond w e).1 = (respondCore w e).1 := by
  unfold respond
  split
  · exact .inl rfl
  · rw [faultStep_snd, respondCore_fault]; exact .inr rfl

/-- what the world can answer to a file-system effect, whatever the fault plan -/
theorem respond_eff (w : World) (x : Eff) :
    (∃ e, respond w (.eff x) = (.err e, (faultStep w (.eff x)).2)) ∨
    (∃ s', w.st.apply x = some s' ∧
      respond w (.eff x) = (.unit, { (faultStep w (.eff x)).2 with st := s', log := w.log ++ [x] })) := by
  unfold respond
  split
  · exact .inl ⟨_, rfl⟩
  · simp only [respondCore, applyEff, faultStep_st, faultStep_log]
    cases w.st.apply x with
    | none => exact .inl ⟨_, rfl⟩
    | some s' => exact .inr ⟨s', rfl, rfl⟩

/-- what one primitive changes -/
theorem respond_cases (w : World) (e : Ev) :
    (respond w e).2 = (faultStep w e).2 ∨
    (∃ x s', e = .eff x ∧ w.st.apply x = some s' ∧
      (respond w e).2 = { (faultStep w e).2 with st := s', log := w.log ++ [x] }) ∨
    (∃ c i, e = .acquire c i ∧
      (respond w e).2 = { (faultStep w e).2 with lk := w.lk.put c (w.lk.get c ++ [i]) }) ∨
    (∃ c i, e = .release c i ∧
      (respond w e).2 = { (faultStep w e).2 with lk := w.lk.put c ((w.lk.get c).erase i) }) := by
  cases e with
  | eff x =>
    rcases respond_eff w x with ⟨_, h⟩ | ⟨s', ha, h⟩
    · exact .inl (by rw [h])
    · exact .inr (.inl ⟨x, s', rfl, ha, by rw [h]⟩)
  | acquire c i =>
    rw [respond_acquire, faultStep_of_no_sites rfl]; split
    · exact .inl rfl
    · exact .inr (.inr (.inl ⟨c, i, rfl, rfl⟩))
  | release c i =>
    rw [respond_release, faultStep_of_no_sites rfl]; split
    · exact .inr (.inr (.inr ⟨c, i, rfl, rfl⟩))
    · exact .inl rfl
  | readRef l => left; unfold respond; split; rfl; cases l <;> rfl
  | readOpen l => left; unfold respond; split; rfl; cases l <;> rfl
  | _ => left; unfold respond; split <;> rfl

/-! corollaries, in the words the development uses now -/

theorem respond_store_cases (w : World) (e : Ev) :
    (respond w e).2.st = w.st ∨ ∃ x s', e = .eff x ∧ w.st.apply x = some s' ∧ (respond w e).2.st = s' := by
  rcases respond_cases w e with h | ⟨x, s', he, ha, h⟩ | ⟨_, _, _, h⟩ | ⟨_, _, _, h⟩ <;> rw [h]
  · exact .inl (faultStep_st w e)
  · exact .inr ⟨x, s', he, ha, rfl⟩
  · exact .inl (faultStep_st w e)
  · exact .inl (faultStep_st w e)

theorem respond_lk (w : World) (e : Ev) :
    (respond w e).2.lk = w.lk ∨
    (∃ c' i', e = .acquire c' i' ∧ (respond w e).2.lk = w.lk.put c' (w.lk.get c' ++ [i'])) ∨
    (∃ c' i', e = .release c' i' ∧ (respond w e).2.lk = w.lk.put c' ((w.lk.get c').erase i')) := by
  rcases respond_cases w e with h | ⟨_, _, _, _, h⟩ | ⟨c, i, he, h⟩ | ⟨c, i, he, h⟩ <;> rw [h]
  · exact .inl (faultStep_lk w e)
  · exact .inl (faultStep_lk w e)
  · exact .inr (.inl ⟨c, i, he, rfl⟩)
  · exact .inr (.inr ⟨c, i, he, rfl⟩)

theorem respond_fault (w : World) (e : Ev) : (respond w e).2.fault = (faultStep w e).2.fault := by
  rcases respond_cases w e with h | ⟨_, _, _, _, h⟩ | ⟨_, _, _, h⟩ | ⟨_, _, _, h⟩ <;> rw [h]

end HS
