/-
  RollbackAll — the fault sites of tag_object on an unbound pid (the sites of its fault-free
  run), and the immediate retry after a rolled-back failure.
-/
import HSModel.Proofs.RollbackTag
import HSModel.Proofs.Events
namespace HS
variable (cfg : Config) (o : Oracle)

/-- the fault sites `tag_object(p, c)` passes when p is unbound and c has no list (fault-free order) -/
def tagSitesNew (p c : Str) : List (SiteKind × Target × Nat) :=
  [(.mkdirs, .dir .pidRef (o.hId p), 0), (.mkdirs, .dir .cidRef c, 0), (.mkTmp, .tmp .refs, 0), (.openWrite, .tmp .refs, 0),
   (.mkTmp, .tmp .refs, 1), (.openWrite, .tmp .refs, 1), (.rename, .loc (.pidRef (o.hId p)), 0),
   (.rename, .loc (.cidRef c), 0), (.openRead, .loc (.pidRef (o.hId p)), 0), (.openRead, .loc (.cidRef c), 0)]

/-- … and when c already has a list that does not name p -/
def tagSitesAppend (p c : Str) : List (SiteKind × Target × Nat) :=
  [(.mkdirs, .dir .pidRef (o.hId p), 0), (.mkdirs, .dir .cidRef c, 0), (.mkTmp, .tmp .refs, 0), (.openWrite, .tmp .refs, 0),
   (.rename, .loc (.pidRef (o.hId p)), 0), (.openRead, .loc (.cidRef c), 0), (.openRead, .loc (.cidRef c), 1),
   (.openWrite, .loc (.cidRef c), 0), (.flock, .loc (.cidRef c), 0), (.openRead, .loc (.pidRef (o.hId p)), 0),
   (.openRead, .loc (.cidRef c), 2)]

/-- after a rolled-back failure the same call, made again at once (the spent
    plan still in place), returns normally -/
theorem retry_after_rollback (st : Store) (p c : Str) (r : Except Exc Val) (w' : World)
    (hp : checkStringOk p = true) (hc : checkStringOk c = true) (hnl : AllNl st.cidRefs)
    (hrb : RolledBack o p st r w') (herr : ∀ v, r ≠ .ok v) :
    ((tagObject cfg o (.str p) (.str c)).run w').1 = .ok .unit := by
  obtain ⟨hlk, hcase⟩ := hrb
  rcases hcase with ⟨v, hv⟩ | ⟨hgone, hnl', _, f', hf', hpers, hfired⟩
  · exact absurd hv (herr v)
  · obtain ⟨st', lk, fault, log⟩ := w'
    simp only at hlk hf' hgone hnl'
    subst hlk hf'
    obtain ⟨st2, log2, t2, hrun, _⟩ := tag_any cfg o [] st' log p c hp hc hgone (hnl' hnl)
    have hsp := Prog.run_spent (tagObject cfg o (.str p) (.str c)) (calmL [] st' log) rfl f' hfired hpers
    rw [hrun] at hsp
    exact congrArg Prod.fst hsp

/-- number the occurrences of each (kind, destination) pair, in order -/
def numberSites : List (SiteKind × Target) → List (SiteKind × Target) → List (SiteKind × Target × Nat)
  | _, [] => []
  | seen, s :: r => (s.1, s.2, (seen.filter (· = s)).length) :: numberSites (seen ++ [s]) r

/-- the fault sites a run passes, in order, with their occurrence numbers -/
def sitesOfRun {α : Type} (m : Prog α) (w : World) : List (SiteKind × Target × Nat) :=
  numberSites [] ((m.runLog w []).2.2.flatMap Ev.sites)

/-- the sites of the run, before numbering -/
theorem tag_sites_new_raw (l : List Str) (st : Store) (log : List Eff) (p c : Str) (hp : checkStringOk p = true)
    (hc : checkStringOk c = true) (h1 : st.pidRefs.get (o.hId p) = none) (h2 : st.cidRefs.get c = none) :
    (Prog.events (tagObject cfg o (.str p) (.str c)) (calmL l st log)).flatMap Ev.sites =
      (tagSitesNew o p c).map fun s => (s.1, s.2.1) := by
  simp [Prog.events, calmL, tagObject, storeRefs, runsimp, Prog.runLog, checkString_of_ok hp, checkString_of_ok hc, h1, h2,
    writeRefsTmp, verifyRefs, inRefs, pyLines_single p (nospace_of_ok hp), Ev.sites, tagSitesNew]

theorem tag_sites_append_raw (l : List Str) (st : Store) (log : List Eff) (p c : Str) (ls : List Str)
    (hp : checkStringOk p = true) (hc : checkStringOk c = true) (h1 : st.pidRefs.get (o.hId p) = none)
    (h2 : st.cidRefs.get c = some (renderLines ls)) (hls : ∀ l ∈ ls, hasSpace l = false) (hnot : p ∉ ls) :
    (Prog.events (tagObject cfg o (.str p) (.str c)) (calmL l st log)).flatMap Ev.sites =
      (tagSitesAppend o p c).map fun s => (s.1, s.2.1) := by
  have hin : inRefs p (renderLines ls) = false := by
    rw [inRefs_render p ls hls]; simpa using hnot
  have hin' : inRefs p (renderLines ls ++ (p ++ ['\n'])) = true :=
    inRefs_append_line _ p (nlTerm_render ls) (nospace_of_ok hp)
  simp [Prog.events, calmL, tagObject, storeRefs, runsimp, Prog.runLog, checkString_of_ok hp, checkString_of_ok hc, h1, h2,
    writeRefsTmp, verifyRefs, updateRefsAdd, hin, hin', Ev.sites, tagSitesAppend]

theorem tag_sites_new_complete (st : Store) (log : List Eff) (p c : Str) (hp : checkStringOk p = true)
    (hc : checkStringOk c = true) (h1 : st.pidRefs.get (o.hId p) = none) (h2 : st.cidRefs.get c = none) :
    sitesOfRun (tagObject cfg o (.str p) (.str c)) (calm st log) = tagSitesNew o p c := by
  show numberSites [] ((Prog.events _ (calmL [] st log)).flatMap Ev.sites) = _
  rw [tag_sites_new_raw cfg o [] st log p c hp hc h1 h2]
  simp [tagSitesNew, numberSites]

theorem tag_sites_append_complete (st : Store) (log : List Eff) (p c : Str) (ls : List Str) (hp : checkStringOk p = true)
    (hc : checkStringOk c = true) (h1 : st.pidRefs.get (o.hId p) = none)
    (h2 : st.cidRefs.get c = some (renderLines ls)) (hls : ∀ l ∈ ls, hasSpace l = false) (hnot : p ∉ ls) :
    sitesOfRun (tagObject cfg o (.str p) (.str c)) (calm st log) = tagSitesAppend o p c := by
  show numberSites [] ((Prog.events _ (calmL [] st log)).flatMap Ev.sites) = _
  rw [tag_sites_append_raw cfg o [] st log p c ls hp hc h1 h2 hls hnot]
  simp [tagSitesAppend, numberSites]

end HS
