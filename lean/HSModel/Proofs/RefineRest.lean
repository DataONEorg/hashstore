/-
  RefineRest — delete_metadata, store_object(None, data), delete_if_invalid_object:
  same result as the specification, related final states. Helper lemmas.
-/
import HSModel.Proofs.RefineRead
namespace HS
variable (cfg : Config) (o : Oracle)

/-- `delete_metadata`: same result as the specification, related final states -/
theorem dmeta_refines (st : Store) (log : List Eff) (a : Abs) (pid fmt : SArg)
    (hs : Sim o st a) (hid : PlainIds o) (hinj : Inj o.hId) :
    ∃ w', (deleteMetadata cfg o pid fmt).run (calm st log) = ((Abs.deleteMeta cfg a pid fmt).1, w') ∧
      w'.lk = {} ∧ w'.fault = none ∧ Sim o w'.st (Abs.deleteMeta cfg a pid fmt).2 := by
  obtain ⟨hr, hi, hd⟩ := hs
  cases hpc : checkString pid with
  | error e =>
    have hspec : Abs.deleteMeta cfg a pid fmt = (.error e, a) := by simp [Abs.deleteMeta, Abs.metaArgs, hpc]
    rw [hspec]
    exact ⟨calm st log, by simp [deleteMetadata, runeq, hpc], rfl, rfl, ⟨hr, hi, hd⟩⟩
  | ok p =>
    cases hf : checkArgFormatId cfg.ns fmt with
    | error e =>
      have hspec : Abs.deleteMeta cfg a pid fmt = (.error e, a) := by simp [Abs.deleteMeta, Abs.metaArgs, hpc, hf]
      rw [hspec]
      exact ⟨calm st log, by simp [deleteMetadata, runeq, hpc, hf], rfl, rfl, ⟨hr, hi, hd⟩⟩
    | ok f =>
      have hnf : (calm st log).fault = none := rfl
      have hdoc : (calm st log).lk.doc = [] := rfl
      by_cases hfn : fmt = .none
      · subst hfn
        have hspec : Abs.deleteMeta cfg a pid .none = (.ok .unit, { a with docs := a.dropDocs p }) := by
          simp [Abs.deleteMeta, Abs.metaArgs, hpc, hf]
        rw [hspec]
        obtain ⟨hfr, hget⟩ := dmc_all o p (calm st log) hnf hdoc (docsPlainM_of_ok o hd hid)
        have hsame := dmc_same o p none (calm st log) hnf hdoc
        refine ⟨dmcWorld o p none (calm st log), ?_, hsame.lk, hsame.nf.trans hnf, ?_⟩
        · simp [deleteMetadata, runeq, hpc, hf, dmc_run_eq o p none (calm st log) hnf hdoc]
        · refine ⟨⟨by intro q; rw [hsame.pid]; exact hr.bind q, by intro c; rw [hsame.obj]; exact hr.objs c, ?_, hr.wf⟩,
            refsExact_of_eq o hi hsame.pid hsame.cid hsame.obj hsame.tr hsame.to, ?_⟩
          · intro q g
            show (a.dropDocs p).get (q, g) = _
            rw [Abs.dropDocs_get, hget]
            by_cases e : q = p
            · subst e; simp
            · have : o.hId q ≠ o.hId p := fun e2 => e (hinj _ _ e2)
              simp [e, this]
              exact hr.docs q g
          · refine ⟨?_, ?_, by rw [hfr.tmp]; exact hd.no_tmp⟩
            · intro d n x hx
              rw [hget] at hx
              split at hx
              · cases hx
              · exact hd.named d n x hx
            · intro d n x hx
              rw [hget] at hx
              split at hx
              · cases hx
              · rw [hfr.dirs]; exact hd.dir d n x hx
      · have hsel : (match fmt with | .none => (none : Option Str) | _ => some f) = some f := by
          cases fmt with
          | none => exact absurd rfl hfn
          | other => rfl
          | str s => rfl
        have hspec : Abs.deleteMeta cfg a pid fmt = (.ok .unit, { a with docs := a.docs.del (p, f) }) := by
          cases fmt with
          | none => exact absurd rfl hfn
          | other => simp [Abs.deleteMeta, Abs.metaArgs, hpc, hf]
          | str s => simp [Abs.deleteMeta, Abs.metaArgs, hpc, hf]
        rw [hspec]
        obtain ⟨hfr, hget⟩ := dmc_one o p f (calm st log) hnf hdoc
        have hsame := dmc_same o p (some f) (calm st log) hnf hdoc
        refine ⟨dmcWorld o p (some f) (calm st log), ?_, hsame.lk, hsame.nf.trans hnf, ?_⟩
        · simp [deleteMetadata, runeq, hpc, hf, hsel, dmc_run_eq o p (some f) (calm st log) hnf hdoc]
        · refine ⟨⟨by intro q; rw [hsame.pid]; exact hr.bind q, by intro c; rw [hsame.obj]; exact hr.objs c, ?_, hr.wf⟩,
            refsExact_of_eq o hi hsame.pid hsame.cid hsame.obj hsame.tr hsame.to, ?_⟩
          · intro q g
            show (a.docs.del (p, f)).get (q, g) = _
            rw [FMap.get_del, hget]
            by_cases e : (p, f) = (q, g)
            · injection e with e1 e2; subst e1; subst e2; simp
            · have : (o.hId q, o.hId (q ++ g)) ≠ (o.hId p, o.hId (p ++ f)) := by
                intro e2
                injection e2 with e3 e4
                have e5 := hinj _ _ e3
                subst e5
                have e6 := hinj _ _ e4
                exact e (by rw [List.append_cancel_left e6])
              simp [e, this]
              exact hr.docs q g
          · refine ⟨?_, ?_, by rw [hfr.tmp]; exact hd.no_tmp⟩
            · intro d n x hx
              rw [hget] at hx
              split at hx
              · cases hx
              · exact hd.named d n x hx
            · intro d n x hx
              rw [hget] at hx
              split at hx
              · cases hx
              · rw [hfr.dirs]; exact hd.dir d n x hx

/-- `store_object(None, data)`: same result as the specification, related final states -/
theorem storeData_refines (st : Store) (log : List Eff) (a : Abs) (data : DataArg) (additional checksum csAlg : SArg)
    (expSize : IArg) (hs : Sim o st a) (hdg : PlainDigests o) :
    ∃ w', (storeObject cfg o .none data additional checksum csAlg expSize).run (calm st log) =
        ((Abs.storeData cfg o a data).1, w') ∧
      w'.lk = {} ∧ w'.fault = none ∧ Sim o w'.st (Abs.storeData cfg o a data).2 := by
  cases hd : checkArgData data with
  | error e =>
    have hspec : Abs.storeData cfg o a data = (.error e, a) := by simp [Abs.storeData, hd]
    rw [hspec]
    exact ⟨calm st log, by simp [storeObject, runeq, hd], rfl, rfl, hs⟩
  | ok _ =>
    cases hst : openStream data with
    | error e =>
      have hspec : Abs.storeData cfg o a data = (.error e, a) := by simp [Abs.storeData, hd, hst]
      rw [hspec]
      exact ⟨calm st log, by simp [storeObject, runeq, hd, hst], rfl, rfl, hs⟩
    | ok t =>
      have hspec : Abs.storeData cfg o a data =
          (.ok (.objMeta (Abs.objMetaOf cfg o t none none)), a.addObj (o.dig cfg.alg t) t) := by
        simp [Abs.storeData, hd, hst, Abs.objMetaOf]
      rw [hspec]
      obtain ⟨st1, log1, hrun1, f1, f2, f3, f4, f5, f6, f7, f8⟩ := mv_run_data_spec cfg o [] st log t
      simp only [calmL] at hrun1
      have hsim := sim_after_place cfg o st st1 a t true hs hdg f1 f2 f3 f4 f5 f6 f7 (by intro j; rw [f8 j]; simp)
      have hsim' : Sim o st1 (a.addObj (o.dig cfg.alg t) t) := by simpa using hsim
      refine ⟨calm st1 log1, ?_, rfl, rfl, hsim'⟩
      simp [storeObject, runeq, hd, hst, calm, calmL, hrun1, Abs.objMetaOf]

/-- `_delete_object_only`: what the specification's `deleteOnly` says -/
theorem deleteOnly_refines (st : Store) (log : List Eff) (a : Abs) (cid : Str) (hs : Sim o st a) :
    ∃ st' log', (deleteObjectOnly cid).run (calm st log) = ((a.deleteOnly cid).1, calm st' log') ∧
      Sim o st' (a.deleteOnly cid).2 := by
  obtain ⟨hr, hi, hd⟩ := hs
  cases h2 : st.cidRefs.get cid with
  | some t =>
    have href : a.referenced cid = true := by rw [referenced_rel hr hi, h2]; rfl
    have hspec : a.deleteOnly cid = (.ok (), a) := by simp [Abs.deleteOnly, href]
    rw [hspec]
    exact ⟨st, log, by simp [deleteObjectOnly, runeq, h2, calm, calmL], ⟨hr, hi, hd⟩⟩
  | none =>
    have href : a.referenced cid = false := by rw [referenced_rel hr hi, h2]; rfl
    cases hobj : st.objs.get cid with
    | none =>
      have hc : a.objs.contains cid = false := by simp [FMap.contains, hr.objs, hobj]
      have hspec : a.deleteOnly cid = (.error .fileNotFound, a) := by simp [Abs.deleteOnly, href, hc]
      rw [hspec]
      exact ⟨st, log, by simp [deleteObjectOnly, runeq, h2, hobj, calm, calmL], ⟨hr, hi, hd⟩⟩
    | some x =>
      have hc : a.objs.contains cid = true := by simp [FMap.contains, hr.objs, hobj]
      have hspec : a.deleteOnly cid = (.ok (), { a with objs := a.objs.del cid }) := by
        simp [Abs.deleteOnly, href, hc]
      rw [hspec]
      refine ⟨{ st with objs := st.objs.del cid }, log ++ [Eff.remove (.obj cid)],
        by simp [deleteObjectOnly, runeq, h2, hobj, calm, calmL], ?_⟩
      refine ⟨⟨hr.bind, ?_, hr.docs, hr.wf⟩, ?_, ⟨hd.named, hd.dir, hd.no_tmp⟩⟩
      · intro j
        show (a.objs.del cid).get j = (st.objs.del cid).get j
        rw [FMap.get_del, FMap.get_del, hr.objs]
      · refine ⟨hi.pid_listed, hi.list_ok, hi.no_tmp, hi.cid_plain, ?_⟩
        intro c y hy
        have hy' : (st.objs.del cid).get c = some y := hy
        exact hi.obj_plain c y (FMap.get_del_some hy')

/-- `delete_if_invalid_object`: same result as the specification, related final states -/
theorem div_refines (st : Store) (log : List Eff) (a : Abs) (om : Option ObjMeta) (checksum csAlg : SArg)
    (expSize : IArg) (hs : Sim o st a) :
    ∃ w', (deleteIfInvalidObject cfg o om checksum csAlg expSize).run (calm st log) =
        ((Abs.divObj cfg o a om checksum csAlg expSize).1, w') ∧
      w'.lk = {} ∧ w'.fault = none ∧ Sim o w'.st (Abs.divObj cfg o a om checksum csAlg expSize).2 := by
  cases hc : checkString checksum with
  | error e =>
    exact ⟨calm st log, by simp [deleteIfInvalidObject, Abs.divObj, Abs.divArgs, runeq, hc], rfl, rfl,
      by simpa [calm_st, Abs.divObj, Abs.divArgs, hc] using hs⟩
  | ok c =>
  cases hal : checkString csAlg with
  | error e =>
    exact ⟨calm st log, by simp [deleteIfInvalidObject, Abs.divObj, Abs.divArgs, runeq, hc, hal], rfl, rfl,
      by simpa [calm_st, Abs.divObj, Abs.divArgs, hc, hal] using hs⟩
  | ok al =>
  cases hi : checkInteger expSize with
  | error e =>
    exact ⟨calm st log, by simp [deleteIfInvalidObject, Abs.divObj, Abs.divArgs, runeq, hc, hal, hi], rfl, rfl,
      by simpa [calm_st, Abs.divObj, Abs.divArgs, hc, hal, hi] using hs⟩
  | ok _ =>
  cases om with
  | none =>
    exact ⟨calm st log, by simp [deleteIfInvalidObject, Abs.divObj, Abs.divArgs, runeq, hc, hal, hi], rfl, rfl,
      by simpa [calm_st, Abs.divObj, Abs.divArgs, hc, hal, hi] using hs⟩
  | some m =>
  cases hcl : cleanAlgorithm al with
  | error e =>
    exact ⟨calm st log, by simp [deleteIfInvalidObject, Abs.divObj, Abs.divArgs, runeq, hc, hal, hi, hcl], rfl, rfl,
      by simpa [calm_st, Abs.divObj, Abs.divArgs, hc, hal, hi, hcl] using hs⟩
  | ok a' =>
  obtain ⟨st1, log1, hrun1, hsim1⟩ := deleteOnly_refines o st log a m.cid hs
  simp only [calm, calmL] at hrun1
  -- both sides evaluated up to here, once
  simp only [deleteIfInvalidObject, Abs.divObj, Abs.divArgs, Abs.divDigest, runeq, hc, hal, hi, hcl, calm, calmL, ok_bind,
    pure_ok]
  by_cases hsz : sizeMismatch expSize m.size = true
  · refine ⟨calm st1 log1, ?_, rfl, rfl, by simpa [calm_st, hsz] using hsim1⟩
    cases hdo : (a.deleteOnly m.cid).1 <;> simp [Abs.orElse, runeq, hsz, calm, calmL, hrun1, hdo]
  -- the digest compared with is `Abs.divDigest`: the object is read through `Rel`
  have hcmp : ∀ d : Str, ∃ w', Prog.run (α := Except Exc Val) (do
        if d ≠ lower c then
          deleteObjectOnly m.cid
          throw Exc.nonMatchingChecksum
          pure Val.unit
        else pure Val.unit : PE Val) ⟨st, {}, none, log⟩ =
        ((if d ≠ lower c then (Abs.orElse (a.deleteOnly m.cid).1 .nonMatchingChecksum, (a.deleteOnly m.cid).2)
          else (.ok .unit, a)).1, w') ∧ w'.lk = {} ∧ w'.fault = none ∧
        Sim o w'.st (if d ≠ lower c then (Abs.orElse (a.deleteOnly m.cid).1 .nonMatchingChecksum, (a.deleteOnly m.cid).2)
          else (.ok .unit, a)).2 := by
    intro d
    by_cases hne : d = lower c
    · exact ⟨calm st log, by simp [runeq, hne, calm, calmL], rfl, rfl, by simpa [calm_st, hne] using hs⟩
    · refine ⟨calm st1 log1, ?_, rfl, rfl, by simpa [calm_st, hne] using hsim1⟩
      cases hdo : (a.deleteOnly m.cid).1 <;> simp [Abs.orElse, runeq, hne, calm, calmL, hrun1, hdo]
  cases hl : lookupDigest m.digests a' with
  | some d => simpa [runeq, hsz] using hcmp d
  | none =>
    cases hl2 : lookupDigest m.digests cfg.alg with
    | none => exact ⟨calm st log, by simp [runeq, hsz, calm, calmL], rfl, rfl, by simpa [calm_st, hsz] using hs⟩
    | some oc =>
      have hro := hs.rel.objs oc
      cases hg : st.objs.get oc with
      | none => exact ⟨calm st log, by simp [runeq, hsz, hro, hg, calm, calmL], rfl, rfl, by simpa [calm_st, hsz, hro, hg] using hs⟩
      | some t => simpa [runeq, hsz, hro, hg] using hcmp (o.dig a' t)

end HS
