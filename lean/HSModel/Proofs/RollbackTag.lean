/-
  RollbackTag — `tag_object` on an unbound pid under ANY one-off fault plan: the call returns
  normally, or it raises with everything released, the pid still unbound and every list text
  still newline-terminated (so an immediate retry succeeds, `tag_any`).
  By `Prog.run_one_off` only the failure outcomes of the fault-free run matter. Each is a
  failure inside the guarded part of `storeRefs`, from which the handler runs `untagObject`
  without faults; `untag_undoes` says what that does from every state the guarded part can leave.
-/
import HSModel.Proofs.TrailNl
import HSModel.Proofs.OneOff
namespace HS
variable (cfg : Config) (o : Oracle)

/-- the outcome the property asks for after a failed `tag_object(p, …)` on an unbound pid -/
def RolledBack (p : Str) (st : Store) (r : Except Exc Val) (w' : World) : Prop :=
  w'.lk = {} ∧ ((∃ v, r = .ok v) ∨
    (w'.st.pidRefs.get (o.hId p) = none ∧ (AllNl st.cidRefs → AllNl w'.st.cidRefs) ∧ w'.st.objs = st.objs ∧
      ∃ f', w'.fault = some f' ∧ f'.persistent = false ∧ f'.fired = true))

/-- the world with a fresh one-off plan -/
def planned (st : Store) (log : List Eff) (k : SiteKind) (t : Target) (n : Nat) : World :=
  { st := st, lk := {}, fault := some { kind := k, target := t, nth := n, persistent := false }, log := log }

local macro "rb_simp" hp:ident hc:ident h1:ident h2:ident extra:term "," extra2:term "," extra3:term "," extra4:term "," extra5:term "," extra6:term : tactic =>
  `(tactic| simp [RolledBack, planned, tagObject, storeRefs, untagObject, findObject, validateAndCheckCidLock, markPidRef,
    removePidAndHandle, updateRefsRemove, updateRefsAdd, deleteMarked, runsimp, Fault.check, Ev.sites,
    checkString_of_ok $hp, checkString_of_ok $hc, $h1:ident, $h2:ident, writeRefsTmp, verifyRefs, Loc.marker, gone_after,
    overwrite_truncate, renderLines_snoc, renderLines_eq_nil, $extra:term, $extra2:term, $extra3:term, $extra4:term, $extra5:term, $extra6:term])

/-! ### what `untagObject` undoes -/

theorem allNl_emptied {m : FMap Str Str} {c t : Str} (h2 : m.get c = some t) (hnl : AllNl m) :
    AllNl (((((m.set c (overwritePrefix [] t)).set c []).del c).set (c ++ deleteSuffix) []).del (c ++ deleteSuffix)) :=
  allNl_del (allNl_set (allNl_del (allNl_set (allNl_set hnl _ _ (nlTerm_overwrite _ _ nlTerm_nil (hnl c t h2)))
    _ _ nlTerm_nil) _) _ _ nlTerm_nil) _

theorem allNl_removed {m : FMap Str Str} {c t : Str} (p : Str) (h2 : m.get c = some t) (hnl : AllNl m) :
    AllNl ((m.set c (overwritePrefix (removeLines p t) t)).set c (removeLines p t)) :=
  have hn := nlTerm_removeLines p t (hnl c t h2)
  allNl_set (allNl_set hnl _ _ (nlTerm_overwrite _ _ hn (hnl c t h2))) _ _ hn

/-- what is left once the pid is unbound again: the locks `lk`, no plan, the objects of `st`, and
    list texts as well formed as they were in `st` -/
def Undone (lk : Locks) (p : Str) (st : Store) (w' : World) : Prop :=
  w'.lk = lk ∧ w'.fault = none ∧ w'.st.pidRefs.get (o.hId p) = none ∧
    (AllNl st.cidRefs → AllNl w'.st.cidRefs) ∧ w'.st.objs = st.objs

/-- **`untagObject(p, c)` without faults, both identifiers held, from any store in which p is
    unbound or bound to c** — whatever the cid's list and the object are: p ends unbound -/
theorem untag_undoes (p c : Str) (st : Store) (lk : Locks) (log : List Eff) (hp : checkStringOk p = true)
    (hc : checkStringOk c = true) (hlp : p ∈ lk.refPid) (hlc : c ∈ lk.cid)
    (h1 : st.pidRefs.get (o.hId p) = none ∨ st.pidRefs.get (o.hId p) = some c) :
    Undone o lk p st (Prog.run (untagObject cfg o p c) ⟨st, lk, none, log⟩).2 := by
  rcases h1 with h1 | h1
  · -- unknown pid: only the cid's list is cleaned
    cases h2 : st.cidRefs.get c with
    | none => rb_simp hp hc h1 h2 Undone, hlp, hlc, True, True, True
    | some t =>
      by_cases hnew : removeLines p t = []
      · rb_simp hp hc h1 h2 Undone, hlp, hlc, hnew, True, True
        exact allNl_emptied h2
      · rb_simp hp hc h1 h2 Undone, hlp, hlc, hnew, True, True
        exact allNl_removed p h2
  · cases h2 : st.cidRefs.get c with
    | none => rb_simp hp hc h1 h2 Undone, hlp, hlc, True, True, True
    | some t =>
      cases hin : inRefs p t with
      | false => rb_simp hp hc h1 h2 Undone, hlp, hlc, hin, True, True
      | true =>
        by_cases hnew : removeLines p t = []
        · cases hobj : st.objs.get c <;> rb_simp hp hc h1 h2 Undone, hlp, hlc, hin, hnew, hobj <;>
            exact allNl_emptied h2
        · cases hobj : st.objs.get c <;> rb_simp hp hc h1 h2 Undone, hlp, hlc, hin, hnew, hobj <;>
            exact allNl_removed p h2

/-! ### the guarded part of `storeRefs` -/

/-- the world in which `storeRefs(p, c)` runs its guarded part -/
def held (l : List Str) (p c : Str) (st : Store) (log : List Eff) : World :=
  { st := st, lk := { objPid := l, refPid := [p], cid := [c] }, log := log }

/-- the skeleton of `storeRefs` (the fault-free guarded part returning normally): a failure
    outcome of the whole is one of the guarded part, handled, then released -/
theorem bracket_failures (p c : Str) (body : PE Unit) (undo : Exc → PE Unit) (l : List Str) (st : Store)
    (log : List Eff) (hok : (Prog.run body (held l p c st log)).1 = .ok ()) :
    Prog.failures (PE.withFinally (do acquire .refPid p; acquire .cid c; tryCatch body undo)
        (do release .cid c; release .refPid p)) (calmL l st log) =
      (Prog.failures body (held l p c st log)).map fun y =>
        Prog.run (PE.withFinally (tryCatch (Prog.ret y.1) undo) (do release .cid c; release .refPid p)) y.2 := by
  have hfin : ∀ w, Prog.failures (do release .cid c; release .refPid p : PE Unit) w = [] := by
    intro w
    apply Prog.failures_eq_nil
    repeat allev_step
  have ha1 : Prog.run (acquire .refPid p) (calmL l st log) = (.ok (), ⟨st, { objPid := l, refPid := [p] }, none, log⟩) := by
    simp [calmL, runsimp]
  have ha2 : Prog.run (acquire .cid c) ⟨st, { objPid := l, refPid := [p] }, none, log⟩ = (.ok (), held l p c st log) := by
    simp [held, runsimp]
  have hf1 : ∀ w, Prog.failures (acquire .refPid p) w = [] := fun w => rfl
  have hf2 : ∀ w, Prog.failures (acquire .cid c) w = [] := fun w => rfl
  simp only [PE.failures_withFinally, PE.failures_bind, PE.failures_tryCatch, hfin, hf1, hf2, ha1, ha2, hok,
    List.map_nil, List.append_nil, List.nil_append, List.map_map]
  apply List.map_congr_left
  intro y _
  cases h : y.1 <;> simp [Function.comp, h, runsimp, Prog.run_bind_pe]

/-- a failure outcome of the guarded part from which `untagObject` recovers -/
def Guarded (l : List Str) (p c : Str) (st : Store) (y : Except Exc Unit × World) : Prop :=
  y.1 = .error .osError ∧ y.2.lk = { objPid := l, refPid := [p], cid := [c] } ∧ y.2.fault = none ∧
    (y.2.st.pidRefs.get (o.hId p) = none ∨ y.2.st.pidRefs.get (o.hId p) = some c) ∧
    (AllNl st.cidRefs → AllNl y.2.st.cidRefs) ∧ y.2.st.objs = st.objs

theorem undone_of_guarded (l : List Str) (p c : Str) (st : Store) (hp : checkStringOk p = true)
    (hc : checkStringOk c = true) (undo : Exc → PE Unit)
    (hu : undo .osError = (do untagObject cfg o p c; throw Exc.osError)) (y : Except Exc Unit × World)
    (hy : Guarded o l p c st y) :
    Undone o { objPid := l } p st
      (Prog.run (PE.withFinally (tryCatch (Prog.ret y.1) undo) (do release .cid c; release .refPid p)) y.2).2 := by
  obtain ⟨r, ⟨st', lk', f', log'⟩⟩ := y
  obtain ⟨rfl, rfl, rfl, hpid, hnl, hobj⟩ := hy
  have hun := untag_undoes cfg o p c st' { objPid := l, refPid := [p], cid := [c] } log' hp hc (by simp) (by simp) hpid
  have htc : (tryCatch (Prog.ret (.error .osError)) undo : PE Unit) = (do untagObject cfg o p c; throw Exc.osError) := hu
  rw [htc]
  obtain ⟨hlk, hf, hgone, hnl2, hobj2⟩ := hun
  revert hlk hf hgone hnl2 hobj2
  simp only [PE.withFinally, bind, PE.bind', Prog.run_bind, Prog.run_bind_pe]
  cases Prog.run (untagObject cfg o p c) ⟨st', { objPid := l, refPid := [p], cid := [c] }, none, log'⟩ with
  | mk r' w' =>
    obtain ⟨st2, lk2, f2, log2⟩ := w'
    rintro rfl rfl hgone hnl2 hobj2
    cases r' <;> simp [Undone, runsimp, Prog.run_bind] <;>
      exact ⟨hgone, fun h => hnl2 (hnl h), hobj2.trans hobj⟩

/-- the fault-free guarded part succeeds: the cid has no list, or a newline-terminated one that
    does not name the pid -/
def Taggable (p c : Str) (st : Store) : Prop :=
  st.cidRefs.get c = none ∨ ∃ t, st.cidRefs.get c = some t ∧ NlTerm t ∧ inRefs p t = false

theorem taggable_of_lines {p c : Str} {st : Store} {ls : List Str} (h2 : st.cidRefs.get c = some (renderLines ls))
    (hls : ∀ l ∈ ls, hasSpace l = false) (hnot : p ∉ ls) : Taggable p c st :=
  Or.inr ⟨_, h2, nlTerm_render ls, by rw [inRefs_render p ls hls]; simpa using hnot⟩

theorem storeRefs_failures (l : List Str) (st : Store) (log : List Eff) (p c : Str) (hp : checkStringOk p = true)
    (hc : checkStringOk c = true) (h1 : st.pidRefs.get (o.hId p) = none) (hs : Taggable p c st) :
    ∀ x ∈ Prog.failures (storeRefs cfg o p c) (calmL l st log), Undone o { objPid := l } p st x.2 := by
  unfold storeRefs
  rw [bracket_failures]
  · intro x hx
    obtain ⟨y, hy, rfl⟩ := List.mem_map.1 hx
    refine undone_of_guarded cfg o l p c st hp hc _ rfl y ?_
    revert y
    -- the failure outcomes of the guarded part, computed
    rcases hs with h2 | ⟨t, h2, hnl, hin⟩
    · simp [Guarded, held, runsimp, h1, h2, writeRefsTmp, verifyRefs, inRefs, pyLines_single p (nospace_of_ok hp),
        Prog.failures, Ev.failable, Ev.sites]
      exact fun h => allNl_set h _ _ (nlTerm_line p)
    · simp [Guarded, held, runsimp, h1, h2, writeRefsTmp, verifyRefs, updateRefsAdd, hin,
        inRefs_append_line t p hnl (nospace_of_ok hp), Prog.failures, Ev.failable, Ev.sites]
      exact fun h => allNl_set h _ _ (nlTerm_append_line t p)
  · rcases hs with h2 | ⟨t, h2, hnl, hin⟩
    · simp [held, runsimp, h1, h2, writeRefsTmp, verifyRefs, inRefs, pyLines_single p (nospace_of_ok hp)]
    · simp [held, runsimp, h1, h2, writeRefsTmp, verifyRefs, updateRefsAdd, hin,
        inRefs_append_line t p hnl (nospace_of_ok hp)]

theorem tag_failures (l : List Str) (st : Store) (log : List Eff) (p c : Str) (hp : checkStringOk p = true)
    (hc : checkStringOk c = true) (h1 : st.pidRefs.get (o.hId p) = none) (hs : Taggable p c st) :
    ∀ x ∈ Prog.failures (tagObject cfg o (.str p) (.str c)) (calmL l st log), Undone o { objPid := l } p st x.2 := by
  have htag : tagObject cfg o (.str p) (.str c) = (storeRefs cfg o p c >>= fun _ => pure Val.unit) := by
    simp only [tagObject, checkString_of_ok hp, checkString_of_ok hc]; rfl
  intro x hx
  rw [htag, PE.failures_bind] at hx
  rcases List.mem_append.1 hx with hx | hx
  · obtain ⟨y, hy, rfl⟩ := List.mem_map.1 hx
    have := storeRefs_failures cfg o l st log p c hp hc h1 hs y hy
    cases y.1 <;> exact this
  · cases h : (Prog.run (storeRefs cfg o p c) (calmL l st log)).1 <;> rw [h] at hx <;> cases hx

theorem tag_taggable_ok (l : List Str) (st : Store) (log : List Eff) (p c : Str) (hp : checkStringOk p = true)
    (hc : checkStringOk c = true) (h1 : st.pidRefs.get (o.hId p) = none) (hs : Taggable p c st) :
    ∃ st' log', (tagObject cfg o (.str p) (.str c)).run (calmL l st log) = (.ok .unit, calmL l st' log') := by
  rcases hs with h2 | ⟨t, h2, hnl, hin⟩
  · exact ⟨_, _, tag_neither cfg o l st log p c hp hc h1 h2⟩
  · obtain ⟨st', log', h, _⟩ := tag_any_append cfg o l st log p c t hp hc h1 h2 hnl hin
    exact ⟨st', log', h⟩

/-- **`tag_object(p, c)`, p unbound, under ANY one-off plan** (any kind, destination and
    occurrence number, aimed at a site of the run or not, fresh or not): it returns normally or
    is rolled back, and then the plan is spent -/
theorem tag_one_off (st : Store) (log : List Eff) (p c : Str) (hp : checkStringOk p = true)
    (hc : checkStringOk c = true) (h1 : st.pidRefs.get (o.hId p) = none) (hs : Taggable p c st) (f : Fault)
    (hf : f.persistent = false) :
    RolledBack o p st ((tagObject cfg o (.str p) (.str c)).run ⟨st, {}, some f, log⟩).1
      ((tagObject cfg o (.str p) (.str c)).run ⟨st, {}, some f, log⟩).2 := by
  obtain ⟨f', hp', h⟩ := Prog.run_one_off (tagObject cfg o (.str p) (.str c)) (calm st log) rfl f hf
  have hw : ({ calm st log with fault := some f } : World) = ⟨st, {}, some f, log⟩ := rfl
  rw [hw] at h
  rcases h with h | ⟨hfired, x, hx, h⟩
  · obtain ⟨st', log', hrun⟩ := tag_taggable_ok cfg o [] st log p c hp hc h1 hs
    rw [h, show calm st log = calmL [] st log from rfl, hrun]
    exact ⟨rfl, Or.inl ⟨_, rfl⟩⟩
  · obtain ⟨hlk, _, hgone, hnl, hobj⟩ := tag_failures cfg o [] st log p c hp hc h1 hs x hx
    rw [h]
    exact ⟨hlk, Or.inr ⟨hgone, hnl, hobj, f', rfl, hp', hfired⟩⟩

end HS
