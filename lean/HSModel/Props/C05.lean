/-
  C05 — Reference bookkeeping is exact after every completed call.
  Part 1 (this file, abstract level): `delete_object` clears a bound pid from
  any state, including the dangling ones the public API can create by tagging a
  cid that was never stored; objects appear only by being stored.
  Part 2 (end of this file, concrete level): the two on-disk indexes of the
  concrete model (`refs/pids`, `refs/cids` as files with text contents) agree
  with each other after every completed call of every history, and no temp file
  or marker is left — proved on the program text of the calls, run sequentially
  with no fault plan.
-/
import HSModel.Proofs.StepShape
import HSModel.Proofs.RefsSafe
import HSModel.Proofs.DiscRun
import HSModel.Proofs.Disc
import HSModel.Proofs.RefineAll
import HSModel.Proofs.ConcInv
namespace HS.C05
open Abs
variable (cfg : Config) (o : Oracle)

/-- from *any* abstract state — the object may be missing — `delete_object` of a
    bound pid succeeds, unbinds it, and touches no other binding -/
theorem delete_clears (a : Abs) (p c : Str) (hp : checkStringOk p = true)
    (hb : a.bind.get p = some c) :
    (step cfg o a (.deleteObject (.str p))).1 = .ok .unit ∧
    (step cfg o a (.deleteObject (.str p))).2.bind.get p = none ∧
    ∀ q, q ≠ p → (step cfg o a (.deleteObject (.str p))).2.bind.get q = a.bind.get q := by
  simp only [step, deleteObj, checkString, hp, if_true, hb]
  refine ⟨trivial, by simp, ?_⟩
  intro q hq
  rw [FMap.get_del_ne _ (Ne.symm hq)]

/-- tagging a cid that was never stored creates a dangling binding; it is
    reported as such and `delete_object` clears it (the branch that was broken
    at the pinned commit: defect D3) -/
theorem dangling_is_cleared (a : Abs) (p c : Str) (hp : checkStringOk p = true)
    (hc : checkStringOk c = true) (hu : a.bind.get p = none)
    (hobj : a.objs.get c = none) :
    let a1 := (step cfg o a (.tagObject (.str p) (.str c))).2
    (step cfg o a1 (.retrieveObject (.str p))).1 = .error .refsFileExistsButCidObjMissing ∧
    (step cfg o a1 (.deleteObject (.str p))).1 = .ok .unit ∧
    (step cfg o a1 (.deleteObject (.str p))).2.bind.get p = none := by
  have h1 : (step cfg o a (.tagObject (.str p) (.str c))).2 = { a with bind := a.bind.set p c } := by
    simp [step, tagObj, checkString, hp, hc, tag_unbound c hu]
  simp only [h1]
  have hb : ({ a with bind := a.bind.set p c } : Abs).bind.get p = some c := by simp
  refine ⟨?_, ?_, ?_⟩
  · have : a.objs.contains c = false := by
      cases hcn : a.objs.contains c
      · rfl
      · rw [FMap.contains_iff] at hcn
        obtain ⟨v, hv⟩ := hcn
        rw [hobj] at hv; cases hv
    simp [step, retrieveObj, checkString, hp, find, this]
  · exact (delete_clears cfg o _ p c hp hb).1
  · exact (delete_clears cfg o _ p c hp hb).2.1

/-- an object present after a call was present before, or is the content the
    call itself stored, at the address of its own digest -/
theorem objects_only_by_store (a : Abs) (call : Call) (c : Str) (t : Tok)
    (h : (step cfg o a call).2.objs.get c = some t) :
    a.objs.get c = some t ∨
      ∃ pid add cks ca sz, call = .storeObject pid (.ok t) add cks ca sz ∧ c = o.dig cfg.alg t := by
  rcases step_objs cfg o a call with e | ⟨pid, t0, add, cks, ca, sz, rfl, e⟩ | ⟨c', _, e⟩
  · exact .inl (e ▸ h)
  · rw [e] at h
    unfold addObj at h
    split at h
    · exact .inl h
    · by_cases hc : o.dig cfg.alg t0 = c
      · subst hc; rw [FMap.get_set_self] at h; cases h
        exact .inr ⟨_, _, _, _, _, rfl, rfl⟩
      · rw [FMap.get_set_ne _ _ hc] at h; exact .inl h
  · rw [e] at h; exact .inl (FMap.get_del_some h)


/-! ### Part 2: the concrete indexes -/

/-- a run without fault plan never acquires one -/
theorem run_keeps_no_fault {α : Type} (m : Prog α) (w : World) (h : w.fault = none) : (m.run w).2.fault = none := by
  induction m generalizing w with
  | ret a => exact h
  | op e k ih =>
    simp only [Prog.run]
    apply ih
    rw [respond_fault]; unfold faultStep; rw [h]; exact h

/-- **one call**: from a store whose two indexes agree (`RefsExact`), every
    public call with any arguments, run to completion with free locks and no
    injected fault, leaves a store whose two indexes agree, with no refs/objects
    temp file and no marker among references and objects -/
theorem concrete_exact_step (c : Call) (st : Store) (log : List Eff) (h : RefsExact o st)
    (hid : PlainIds o) (hdg : PlainDigests o) (hinj : Inj o.hId) (hc : CidArgPlain c) :
    RefsExact o ((c.prog cfg o).run (calm st log)).2.st := by
  cases c with
  | storeObject p d a cks ca s => exact store_exact cfg o st log p d a cks ca s h hdg
  | tagObject p c =>
    refine tag_exact cfg o st log p c h ?_
    intro c' hc'; subst hc'; exact hc
  | deleteObject p => exact delete_exact o cfg st log p h hid (fun p q _ e => hinj q p e)
  | deleteIfInvalid om c ca s =>
    exact Prog.run_inv _ (deleteIfInvalid_safe cfg o om c ca s) (refsExact_safe_preserved o) _ h
  | storeMetadata p d f =>
    exact Prog.run_inv _ (storeMetadata_safe cfg o p d f) (refsExact_safe_preserved o) _ h
  | retrieveObject p =>
    exact Prog.run_inv _ (retrieveObject_safe cfg o p) (refsExact_safe_preserved o) _ h
  | retrieveMetadata p f =>
    exact Prog.run_inv _ (retrieveMetadata_safe cfg o p f) (refsExact_safe_preserved o) _ h
  | deleteMetadata p f =>
    exact Prog.run_inv _ (deleteMetadata_safe cfg o p f) (refsExact_safe_preserved o) _ h
  | getHexDigest p a =>
    exact Prog.run_inv _ (getHexDigest_safe cfg o p a) (refsExact_safe_preserved o) _ h

/-- **every history**: starting from the empty store, after each completed call
    of any sequence of public calls the concrete reference bookkeeping is exact -/
theorem concrete_exact_history (cs : List Call) (hid : PlainIds o) (hdg : PlainDigests o) (hinj : Inj o.hId)
    (hcs : ∀ c ∈ cs, CidArgPlain c) :
    RefsExact o (cs.foldl (fun w c => ((c.prog cfg o).run w).2) (calm Store.empty [])).st := by
  suffices H : ∀ (w : World), w.lk = {} → w.fault = none → RefsExact o w.st →
      RefsExact o (cs.foldl (fun w c => ((c.prog cfg o).run w).2) w).st from
    H _ rfl rfl (refsExact_empty o)
  induction cs with
  | nil => intro w _ _ h; exact h
  | cons c r ih =>
    intro w hlk hnf h
    have hw : w = calm w.st w.log := by
      obtain ⟨st, lk, fault, log⟩ := w
      simp only at hlk hnf
      subst hlk; subst hnf; rfl
    simp only [List.foldl_cons]
    apply ih (fun c' hc' => hcs c' (List.mem_cons_of_mem _ hc'))
    · obtain ⟨h', hm, _, hp⟩ := Prog.disc_run _ _ [] w (call_neutral cfg o c)
        (by rw [hlk]; exact matches_empty) List.Pairwise.nil
      subst hp
      exact matches_nil_iff _ hm
    · exact run_keeps_no_fault _ w hnf
    · rw [hw]
      exact concrete_exact_step cfg o c w.st w.log h hid hdg hinj (hcs c (List.mem_cons_self ..))

/-- the calls that never write a reference file -/
def KeepsRefs : Call → Prop
  | .storeObject .. => False
  | .tagObject .. => False
  | .deleteObject .. => False
  | _ => True

theorem keepsRefs_safe (c : Call) (h : KeepsRefs c) : (c.prog cfg o).AllEv RefsSafe := by
  cases c with
  | storeObject => exact h.elim
  | tagObject => exact h.elim
  | deleteObject => exact h.elim
  | deleteIfInvalid om c ca s => exact deleteIfInvalid_safe cfg o om c ca s
  | storeMetadata p d f => exact storeMetadata_safe cfg o p d f
  | retrieveObject p => exact retrieveObject_safe cfg o p
  | retrieveMetadata p f => exact retrieveMetadata_safe cfg o p f
  | deleteMetadata p f => exact deleteMetadata_safe cfg o p f
  | getHexDigest p a => exact getHexDigest_safe cfg o p a

/-- **Metadata calls, readers and `delete_if_invalid_object` never disturb the reference
    bookkeeping, under every interleaving.** Any number of threads running such calls with any
    arguments, from any world whose two indexes agree (`RefsExact`), any fault plan, every schedule,
    every granularity: the indexes agree after every step. -/
theorem exact_kept_under_every_interleaving (calls : List Call) (hc : ∀ c ∈ calls, KeepsRefs c)
    (w0 : World) (h : RefsExact o w0.st) (fuel : Nat) (sched : List Nat) (n : Nat) :
    RefsExact o (runSchedule fuel { w := w0, ts := calls.map (fun c => TState.fresh (c.prog cfg o)) } sched n).1.w.st := by
  have h0 : SafeConf RefsSafe (fun _ _ => True) (fun w => RefsExact o w.st) (fun _ _ => True)
      { w := w0, ts := calls.map (fun c => TState.fresh (c.prog cfg o)) } := by
    refine ⟨h, ?_⟩
    intro i t hi
    simp only at hi
    rw [List.getElem?_map] at hi
    cases hci : calls[i]? with
    | none => rw [hci] at hi; cases hi
    | some c =>
      rw [hci] at hi; cases hi
      exact Prog.safe_of_allEv _ (keepsRefs_safe cfg o c (hc c (List.mem_of_getElem? hci)))
  exact (safe_schedule (refsExact_safe_preserved o) (fun _ _ _ => trivial) _ fuel sched _ n h0).1

/-- what exactness says, spelled out: a bound pid is listed by exactly its cid,
    once; every list is non-empty and names only pids bound to it -/
theorem exact_means (s : Store) (h : RefsExact o s) (hinj : Inj o.hId) (p c : Str)
    (hb : s.pidRefs.get (o.hId p) = some c) :
    ∃ ls, s.cidRefs.get c = some (renderLines ls) ∧ ls.Nodup ∧ p ∈ ls ∧
      ∀ c' ls', s.cidRefs.get c' = some (renderLines ls') → (∀ l ∈ ls', hasSpace l = false) → p ∈ ls' → c' = c := by
  obtain ⟨q, hq, _, t, ht, hin⟩ := h.pid_listed _ _ hb
  have hqp : q = p := hinj q p hq.symm
  subst hqp
  obtain ⟨ls, hls, _, hnd, hall⟩ := h.list_ok c t ht
  subst hls
  have hsp : ∀ l ∈ ls, hasSpace l = false := fun l hl => nospace_of_ok (hall l hl).1
  refine ⟨ls, ht, hnd, ?_, ?_⟩
  · rw [inRefs_render q ls hsp] at hin; simpa using hin
  · intro c' ls' hc' hsp' hmem
    obtain ⟨ls0, hls0, _, _, hall0⟩ := h.list_ok c' _ hc'
    have hsp0 : ∀ l ∈ ls0, hasSpace l = false := fun l hl => nospace_of_ok (hall0 l hl).1
    have := renderLines_inj ls' ls0 hsp' hsp0 hls0
    subst this
    have := (hall0 q hmem).2
    rw [hb] at this
    cases this; rfl

/-! ### Part 3: the concrete calls compute what the specification says

`Abs.step` (HSModel/Spec.lean) is "what the sequence implies": three finite maps
and one clause per call. The concrete program text of every call — the one the
line-protocol driver executes against the real store on every run — is proved to
return the same result and to leave a store that holds exactly the abstract
state, for every call, all arguments, and every history. -/

/-- **one call refines its clause of the specification** -/
theorem concrete_refines_spec_step (c : Call) (st : Store) (log : List Eff) (a : Abs) (hs : Sim o st a)
    (ho : GoodOracle o) (hc : CidArgPlain c) :
    ∃ w', (c.prog cfg o).run (calm st log) = ((Abs.step cfg o a c).1, w') ∧ w'.lk = {} ∧ w'.fault = none ∧
      Sim o w'.st (Abs.step cfg o a c).2 :=
  refines_step cfg o c st log a hs ho hc

/-- **every history**: from the empty store, the concrete run of any sequence
    of public calls returns, call by call, the results of the specification, and
    ends in a store that holds exactly the specification's final state -/
theorem concrete_refines_spec_history (cs : List Call) (ho : GoodOracle o) (hcs : ∀ c ∈ cs, CidArgPlain c) :
    (runHist cfg o cs (calm Store.empty [])).1 = (specHist cfg o cs Abs.empty).1 ∧
      Sim o (runHist cfg o cs (calm Store.empty [])).2.st (specHist cfg o cs Abs.empty).2 :=
  ⟨(refines_history_from cfg o cs _ _ rfl rfl (sim_empty o) ho hcs).1,
   (refines_history_from cfg o cs _ _ rfl rfl (sim_empty o) ho hcs).2.1⟩

/-- what `Sim` says about the directory, spelled out: bindings, objects and
    documents of the specification are the files, one for one -/
theorem sim_means (s : Store) (a : Abs) (h : Sim o s a) :
    (∀ p, a.bind.get p = s.pidRefs.get (o.hId p)) ∧ (∀ c, a.objs.get c = s.objs.get c) ∧
    (∀ p f, a.docs.get (p, f) = s.mdocs.get (o.hId p, o.hId (p ++ f))) ∧
    (∀ c, a.referenced c = (s.cidRefs.get c).isSome) ∧
    s.tmpRefs = 0 ∧ s.tmpObj = 0 ∧ s.tmpMeta = 0 :=
  ⟨h.rel.bind, h.rel.objs, h.rel.docs, fun c => referenced_rel h.rel h.refs c, h.refs.no_tmp.1, h.refs.no_tmp.2,
   h.docs.no_tmp⟩

/-- the hypotheses are satisfiable together: a collision-free identifier hash
    whose values are never marker names, digests likewise and well-formed -/
def sampleOracle : Oracle :=
  { hId := fun s => s ++ ['0'], dig := fun _ t => List.replicate t 'a' ++ ['0'], size := fun t => t }

theorem sample_ok : GoodOracle sampleOracle := by
  have key : ∀ s : Str, Plain (s ++ ['0']) := by
    intro s h
    obtain ⟨t, ht⟩ := h
    have h2 := congrArg List.getLast? ht
    simp [deleteSuffix] at h2
  refine ⟨?_, fun p => key p, fun a t => key _, ?_⟩
  · intro a b hab
    exact List.append_cancel_right hab
  · intro a t
    rw [checkStringOk_iff]
    refine ⟨by simp [sampleOracle], ?_⟩
    rw [hasSpace_false_iff]
    intro c hc
    simp only [sampleOracle, List.mem_append, List.mem_replicate, List.mem_singleton] at hc
    rcases hc with ⟨_, rfl⟩ | rfl <;> decide

end HS.C05
