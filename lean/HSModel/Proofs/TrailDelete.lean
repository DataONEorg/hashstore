/-
  TrailDelete — the trail of delete_object keeps every other pid.
-/
import HSModel.Proofs.TrailTag
namespace HS

/-- primitives that touch documents only -/
def DocsOnly : Ev → Prop
  | .eff (.mkdirs _ _) => True
  | .eff (.mkTmp .mdata) => True
  | .eff (.removeTmp .mdata) => True
  | .eff (.publishDoc _ _ _) => True
  | .eff (.retire (.mdoc _ _)) => True
  | .eff (.remove (.mdoc _ _)) => True
  | .eff _ => False
  | _ => True

theorem withDocLock_docsOnly {α : Type} (doc : Str) (body : PE α) (h : body.AllEv DocsOnly) :
    (withDocLock doc body).AllEv DocsOnly := by
  unfold withDocLock
  repeat (first | exact h | allev_step)

theorem deleteMarked_docsOnly (l : List Loc) (h : ∀ x ∈ l, IsDocLoc x) : (deleteMarked l).AllEv DocsOnly := by
  induction l with
  | nil => exact PE.allEv_pure _
  | cons a r ih =>
    unfold deleteMarked
    apply PE.allEv_bind
    · apply PE.allEv_tryCatch
      · apply allEv_eff
        have ha := h a (List.mem_cons_self ..)
        cases a <;> first | trivial | exact ha.elim
      · intro _; exact PE.allEv_pure _
    · intro _
      exact ih (fun x hx => h x (List.mem_cons_of_mem _ hx))

theorem retireDocs_docsOnly (dir : Str) (names : List Str) :
    (retireDocs dir names).AllEvR DocsOnly (fun l => ∀ x ∈ l, IsDocLoc x) := by
  induction names with
  | nil => exact PE.allEvR_pure _ (by intro x hx; cases hx)
  | cons n r ih =>
    unfold retireDocs
    apply PE.allEvR_bind (Q := fun _ => True)
    · apply PE.allEvR_of_allEv
      apply withDocLock_docsOnly
      apply allEv_eff
      trivial
    · intro _ _
      apply PE.allEvR_bind _ _ ih
      intro rest hrest
      apply PE.allEvR_pure
      intro x hx
      rcases List.mem_cons.mp hx with rfl | hx
      · trivial
      · exact hrest x hx

theorem deleteMetadataCore_docsOnly (o : Oracle) (p : Str) (fmt : Option Str) :
    (deleteMetadataCore o p fmt).AllEv DocsOnly := by
  unfold deleteMetadataCore
  cases fmt with
  | none =>
    simp only
    apply PE.allEv_bind; · (apply allEv_listDocs; trivial)
    intro names
    split
    · exact PE.allEv_pure _
    · apply PE.allEv_bind_post _ _ (retireDocs_docsOnly _ _)
      intro marked hm
      exact deleteMarked_docsOnly _ hm
  | some f =>
    simp only
    apply withDocLock_docsOnly
    repeat allev_step

/-- references and objects as in `s0` -/
def RefsAs (s0 s : Store) : Prop := s.pidRefs = s0.pidRefs ∧ s.cidRefs = s0.cidRefs ∧ s.objs = s0.objs

theorem refsAs_docsOnly (s0 : Store) : Prog.Preserved DocsOnly (fun w => RefsAs s0 w.st) := by
  apply preserved_of_store
  intro s x hx h
  cases x with
  | mkTmp a => cases a <;> first | exact hx.elim | exact h
  | removeTmp a => cases a <;> first | exact hx.elim | exact h
  | retire l => cases l <;> first | exact hx.elim | exact h
  | remove l => cases l <;> first | exact hx.elim | exact h
  | mkdirs a k => exact h
  | publishDoc d n t => exact h
  | _ => exact hx.elim

/-- all along `delete_metadata`, references and objects are those of its start -/
theorem dmc_trail_refs (o : Oracle) (p : Str) (fmt : Option Str) (w : World) :
    ∀ s ∈ Prog.trail (deleteMetadataCore o p fmt) w, RefsAs w.st s :=
  Prog.trail_inv _ (deleteMetadataCore_docsOnly o p fmt) (refsAs_docsOnly w.st) w ⟨rfl, rfl, rfl⟩

theorem Prog.trail_bind_pe {α β : Type} (m : PE α) (f : Except Exc α → Prog β) (w : World) :
    Prog.trail (Prog.bind m f) w = Prog.trail m w ++ Prog.trail (f (Prog.run m w).1) (Prog.run m w).2 :=
  Prog.trail_bind m f w

end HS

namespace HS
variable (cfg : Config) (o : Oracle)

theorem linesKeep_render_append (ls : List Str) (tail : Str) (h : ∀ l ∈ ls, hasSpace l = false) :
    linesKeep (renderLines ls ++ tail) = (ls.map fun l => l ++ ['\n']) ++ linesKeep tail := by
  induction ls with
  | nil => simp [renderLines]
  | cons l r ih =>
    have hl := h l (List.mem_cons_self ..)
    have hr := ih (fun x hx => h x (List.mem_cons_of_mem _ hx))
    simp only [renderLines, List.map_cons, List.flatten_cons] at hr ⊢
    rw [List.append_assoc, List.append_assoc, List.singleton_append,
      linesKeep_cons_line l _ (no_newline_of_nospace l hl), hr]
    simp

/-- a pid on the new list is still read from the file between the rewrite and the truncation -/
theorem inRefs_overwrite (q : Str) (new : List Str) (old : Str) (h : ∀ l ∈ new, hasSpace l = false) (hq : q ∈ new) :
    inRefs q (overwritePrefix (renderLines new) old) = true := by
  unfold inRefs overwritePrefix pyLines
  rw [linesKeep_render_append new _ h, List.map_append, List.map_map]
  simp only [List.contains_eq_mem, List.mem_append, decide_eq_true_eq]
  left
  exact List.mem_map.2 ⟨q, hq, by simp [Function.comp, strip_line q (h q hq)]⟩

/-- sufficient for `OtherKept` at a state of `delete_object(p)`, `p` on the list `ls` of `c` -/
theorem kept_delete (st s' : Store) (p c q : Str) (ls : List Str) (h : RefsExact o st) (hinj : Inj o.hId)
    (h2 : st.cidRefs.get c = some (renderLines ls)) (hls : ∀ l ∈ ls, hasSpace l = false) (hqp : q ≠ p)
    (ha : s'.pidRefs.get (o.hId q) = st.pidRefs.get (o.hId q))
    (hb : ∀ c', c' ≠ c → Plain c' → s'.cidRefs.get c' = st.cidRefs.get c')
    (hb2 : q ∈ ls → ∃ t', s'.cidRefs.get c = some t' ∧ inRefs q t' = true)
    (hc : ∀ c', Plain c' → (c' ≠ c ∨ ls.filter (fun l => !decide (l = p)) ≠ []) → s'.objs.get c' = st.objs.get c') :
    OtherKept o q st s' := by
  intro c' hq'
  have hql : ∀ t, st.cidRefs.get c' = some t → inRefs q t = true := by
    intro t ht
    obtain ⟨q', hq1, _, t', ht', hin⟩ := h.pid_listed _ _ hq'
    have := hinj _ _ hq1; subst this
    rw [ht] at ht'; cases ht'; exact hin
  refine ⟨by rw [ha]; exact hq', ?_, ?_⟩
  · intro t ht hin
    by_cases e : c' = c
    · subst e
      rw [h2] at ht; cases ht
      rw [inRefs_render q ls hls] at hin
      exact hb2 (by simpa using hin)
    · exact ⟨t, by rw [hb c' e (h.cid_plain c' t ht)]; exact ht, hin⟩
  · intro x hx
    rw [hc c' (h.obj_plain c' x hx)]
    · exact hx
    · by_cases e : c' = c
      · right
        subst e
        have := hql _ h2
        rw [inRefs_render q ls hls] at this
        exact List.ne_nil_of_mem (List.mem_filter.2 ⟨by simpa using this, by simpa using hqp⟩)
      · exact Or.inl e

theorem mem_rest {q p : Str} {ls : List Str} (hq : q ∈ ls) (hqp : q ≠ p) :
    q ∈ ls.filter (fun l => !decide (l = p)) := List.mem_filter.2 ⟨hq, by simpa using hqp⟩

theorem hb2_same {q c : Str} {ls : List Str} {m : FMap Str Str} (hls : ∀ l ∈ ls, hasSpace l = false)
    (hget : m.get c = some (renderLines ls)) (hq : q ∈ ls) : ∃ t', m.get c = some t' ∧ inRefs q t' = true :=
  ⟨_, hget, by rw [inRefs_render _ _ hls]; simpa using hq⟩

theorem hb2_over {q p c old : Str} {ls : List Str} {m : FMap Str Str} (hls : ∀ l ∈ ls, hasSpace l = false) (hqp : q ≠ p)
    (hget : m.get c = some (overwritePrefix (renderLines (ls.filter fun l => !decide (l = p))) old)) (hq : q ∈ ls) :
    ∃ t', m.get c = some t' ∧ inRefs q t' = true :=
  ⟨_, hget, inRefs_overwrite _ _ _ (fun l hl => hls l (List.mem_filter.1 hl).1) (mem_rest hq hqp)⟩

theorem hb2_new {q p c : Str} {ls : List Str} {m : FMap Str Str} (hls : ∀ l ∈ ls, hasSpace l = false) (hqp : q ≠ p)
    (hget : m.get c = some (renderLines (ls.filter fun l => !decide (l = p)))) (hq : q ∈ ls) :
    ∃ t', m.get c = some t' ∧ inRefs q t' = true :=
  ⟨_, hget, by
    rw [inRefs_render _ _ (fun l hl => hls l (List.mem_filter.1 hl).1)]
    simpa using (mem_rest hq hqp)⟩

/-- close one crash state of `delete_object`: the four conditions of `kept_delete` by map arithmetic -/
local macro "kept_state" o:ident p:ident c:ident h:ident hinj:ident h2:ident hls:ident hqp:ident hk1:ident hk2:ident
    hrest:ident : tactic =>
  `(tactic| (
    refine kept_delete $o _ _ $p $c _ _ $h $hinj $h2 $hls $hqp ?_ ?_ ?_ ?_
    · simp [FMap.get_set, FMap.get_del, $hk1:ident, $hk2:ident]
    · intro c' hne hpl
      have hm : $c ++ deleteSuffix ≠ c' := ne_marker_of_plain hpl
      simp [FMap.get_set, FMap.get_del, Ne.symm hne, hm]
    · intro hq
      first
        | exact hb2_same $hls $h2 hq
        | exact hb2_over $hls $hqp (FMap.get_set_self _ _ _) hq
        | exact hb2_new $hls $hqp (FMap.get_set_self _ _ _) hq
        | exact absurd (mem_rest hq $hqp) (by simp [$hrest:ident])
    · intro c' hpl hor
      have hm : $c ++ deleteSuffix ≠ c' := ne_marker_of_plain hpl
      first
        | rfl
        | (rcases hor with hne | hne
           · simp [FMap.get_set, FMap.get_del, Ne.symm hne, hm]
           · exact absurd $hrest hne)))

theorem delete_trail_main_keep (st : Store) (log : List Eff) (p c q : Str) (ls : List Str) (x : Tok)
    (h : RefsExact o st) (hid : PlainIds o) (hinj : Inj o.hId) (hqp : q ≠ p)
    (hp : checkStringOk p = true)
    (h1 : st.pidRefs.get (o.hId p) = some c) (h2 : st.cidRefs.get c = some (renderLines ls))
    (hls : ∀ l ∈ ls, hasSpace l = false) (hin : p ∈ ls) (hobj : st.objs.get c = some x)
    (hrest : ls.filter (fun l => !decide (l = p)) ≠ []) :
    ∀ s ∈ Prog.trail (deleteObject cfg o (.str p)) (calm st log), OtherKept o q st s := by
  have hin' : inRefs p (renderLines ls) = true := by
    rw [inRefs_render p ls hls]; simpa using hin
  have hk1 : ¬ o.hId p = o.hId q := fun e => hqp (hinj _ _ e.symm)
  have hk2 : ¬ o.hId p ++ deleteSuffix = o.hId q := ne_marker_of_plain (hid q)
  intro s hs
  simp [calm, calmL, deleteObject, findObject, runsimp, Prog.trail, checkString_of_ok hp, h1, h2, hin',
    updateRefsRemove, removeLines_render p ls hls, overwrite_truncate, deleteMarked, renderLines_eq_nil,
    Prog.run_bind_pe, Prog.run_bind, Prog.trail_bind_pe, Prog.trail_bind, Loc.marker, dmc_run_eq, dmc_lk, dmc_fault,
    dmc_pid, dmc_cid, dmc_obj, dmc_tr, dmc_to, hobj, hrest] at hs
  rcases hs with rfl | rfl | rfl | rfl | hs
  · kept_state o p c h hinj h2 hls hqp hk1 hk2 hrest
  · kept_state o p c h hinj h2 hls hqp hk1 hk2 hrest
  · kept_state o p c h hinj h2 hls hqp hk1 hk2 hrest
  · kept_state o p c h hinj h2 hls hqp hk1 hk2 hrest
  · obtain ⟨e1, e2, e3⟩ := dmc_trail_refs o p none _ s hs
    refine kept_delete o st s p c q ls h hinj h2 hls hqp ?_ ?_ ?_ ?_
    · rw [e1]; simp [FMap.get_set, FMap.get_del, hk1, hk2]
    · intro c' hne hpl
      rw [e2]; simp [FMap.get_set, Ne.symm hne]
    · intro hq
      rw [e2]
      exact hb2_new hls hqp (by simp) hq
    · intro c' hpl hor
      rw [e3]

/-- the states inside `delete_metadata` called from `delete_object` -/
local macro "kept_dmc" o:ident p:ident c:ident h:ident hinj:ident h2:ident hls:ident hqp:ident hk1:ident hk2:ident
    hrest:ident : tactic =>
  `(tactic| (
    intro s hs
    obtain ⟨e1, e2, e3⟩ := dmc_trail_refs $o $p none _ s hs
    refine kept_delete $o _ s $p $c _ _ $h $hinj $h2 $hls $hqp ?_ ?_ ?_ ?_
    · rw [e1]; simp [FMap.get_set, FMap.get_del, $hk1:ident, $hk2:ident]
    · intro c' hne hpl
      have hm : $c ++ deleteSuffix ≠ c' := ne_marker_of_plain hpl
      rw [e2]; simp [FMap.get_set, FMap.get_del, Ne.symm hne, hm]
    · intro hq
      rw [e2]
      first
        | exact hb2_new $hls $hqp (FMap.get_set_self _ _ _) hq
        | exact absurd (mem_rest hq $hqp) (by simp [$hrest:ident])
    · intro c' hpl hor
      have hm : $c ++ deleteSuffix ≠ c' := ne_marker_of_plain hpl
      rw [e3] <;> first
        | rfl
        | (rcases hor with hne | hne
           · simp [FMap.get_set, FMap.get_del, Ne.symm hne, hm]
           · exact absurd $hrest hne)))

theorem delete_trail_main_last (st : Store) (log : List Eff) (p c q : Str) (ls : List Str) (x : Tok)
    (h : RefsExact o st) (hid : PlainIds o) (hinj : Inj o.hId) (hqp : q ≠ p)
    (hp : checkStringOk p = true)
    (h1 : st.pidRefs.get (o.hId p) = some c) (h2 : st.cidRefs.get c = some (renderLines ls))
    (hls : ∀ l ∈ ls, hasSpace l = false) (hin : p ∈ ls) (hobj : st.objs.get c = some x)
    (hrest : ls.filter (fun l => !decide (l = p)) = []) :
    ∀ s ∈ Prog.trail (deleteObject cfg o (.str p)) (calm st log), OtherKept o q st s := by
  have hin' : inRefs p (renderLines ls) = true := by
    rw [inRefs_render p ls hls]; simpa using hin
  have hk1 : ¬ o.hId p = o.hId q := fun e => hqp (hinj _ _ e.symm)
  have hk2 : ¬ o.hId p ++ deleteSuffix = o.hId q := ne_marker_of_plain (hid q)
  intro s hs
  revert s
  simp [calm, calmL, deleteObject, findObject, runsimp, Prog.trail, checkString_of_ok hp, h1, h2, hin',
    updateRefsRemove, removeLines_render p ls hls, overwrite_truncate, deleteMarked, renderLines_eq_nil,
    Prog.run_bind_pe, Prog.run_bind, Prog.trail_bind_pe, Prog.trail_bind, Loc.marker, dmc_run_eq, dmc_lk, dmc_fault,
    dmc_pid, dmc_cid, dmc_obj, dmc_tr, dmc_to, hobj, hrest, or_imp, forall_and]
  repeat' apply And.intro
  all_goals first
    | kept_state o p c h hinj h2 hls hqp hk1 hk2 hrest
    | kept_dmc o p c h hinj h2 hls hqp hk1 hk2 hrest

theorem delete_trail_missing_keep (st : Store) (log : List Eff) (p c q : Str) (ls : List Str) 
    (h : RefsExact o st) (hid : PlainIds o) (hinj : Inj o.hId) (hqp : q ≠ p)
    (hp : checkStringOk p = true)
    (h1 : st.pidRefs.get (o.hId p) = some c) (h2 : st.cidRefs.get c = some (renderLines ls))
    (hls : ∀ l ∈ ls, hasSpace l = false) (hin : p ∈ ls) (hobj : st.objs.get c = none)
    (hrest : ls.filter (fun l => !decide (l = p)) ≠ []) :
    ∀ s ∈ Prog.trail (deleteObject cfg o (.str p)) (calm st log), OtherKept o q st s := by
  have hin' : inRefs p (renderLines ls) = true := by
    rw [inRefs_render p ls hls]; simpa using hin
  have hk1 : ¬ o.hId p = o.hId q := fun e => hqp (hinj _ _ e.symm)
  have hk2 : ¬ o.hId p ++ deleteSuffix = o.hId q := ne_marker_of_plain (hid q)
  intro s hs
  revert s
  simp [calm, calmL, deleteObject, findObject, runsimp, Prog.trail, checkString_of_ok hp, h1, h2, hin',
    updateRefsRemove, removeLines_render p ls hls, overwrite_truncate, deleteMarked, renderLines_eq_nil,
    Prog.run_bind_pe, Prog.run_bind, Prog.trail_bind_pe, Prog.trail_bind, Loc.marker, dmc_run_eq, dmc_lk, dmc_fault,
    dmc_pid, dmc_cid, dmc_obj, dmc_tr, dmc_to, hobj, hrest, or_imp, forall_and]
  repeat' apply And.intro
  all_goals first
    | kept_state o p c h hinj h2 hls hqp hk1 hk2 hrest
    | kept_dmc o p c h hinj h2 hls hqp hk1 hk2 hrest

theorem delete_trail_missing_last (st : Store) (log : List Eff) (p c q : Str) (ls : List Str) 
    (h : RefsExact o st) (hid : PlainIds o) (hinj : Inj o.hId) (hqp : q ≠ p)
    (hp : checkStringOk p = true)
    (h1 : st.pidRefs.get (o.hId p) = some c) (h2 : st.cidRefs.get c = some (renderLines ls))
    (hls : ∀ l ∈ ls, hasSpace l = false) (hin : p ∈ ls) (hobj : st.objs.get c = none)
    (hrest : ls.filter (fun l => !decide (l = p)) = []) :
    ∀ s ∈ Prog.trail (deleteObject cfg o (.str p)) (calm st log), OtherKept o q st s := by
  have hin' : inRefs p (renderLines ls) = true := by
    rw [inRefs_render p ls hls]; simpa using hin
  have hk1 : ¬ o.hId p = o.hId q := fun e => hqp (hinj _ _ e.symm)
  have hk2 : ¬ o.hId p ++ deleteSuffix = o.hId q := ne_marker_of_plain (hid q)
  intro s hs
  revert s
  simp [calm, calmL, deleteObject, findObject, runsimp, Prog.trail, checkString_of_ok hp, h1, h2, hin',
    updateRefsRemove, removeLines_render p ls hls, overwrite_truncate, deleteMarked, renderLines_eq_nil,
    Prog.run_bind_pe, Prog.run_bind, Prog.trail_bind_pe, Prog.trail_bind, Loc.marker, dmc_run_eq, dmc_lk, dmc_fault,
    dmc_pid, dmc_cid, dmc_obj, dmc_tr, dmc_to, hobj, hrest, or_imp, forall_and]
  repeat' apply And.intro
  all_goals first
    | kept_state o p c h hinj h2 hls hqp hk1 hk2 hrest
    | kept_dmc o p c h hinj h2 hls hqp hk1 hk2 hrest

end HS

namespace HS
variable (cfg : Config) (o : Oracle)

theorem otherKept_refl (q : Str) (s : Store) : OtherKept o q s s :=
  fun _ hc => ⟨hc, fun t ht hin => ⟨t, ht, hin⟩, fun _ hx => hx⟩

/-- `delete_object` (any argument) from a store whose indexes agree: every
    store on its trail keeps every other pid's reference, list entry and object -/
theorem delete_trail_kept (st : Store) (log : List Eff) (pid : SArg) (q : Str) (h : RefsExact o st)
    (hid : PlainIds o) (hinj : Inj o.hId) (hq : pid ≠ .str q) :
    ∀ s ∈ Prog.trail (deleteObject cfg o pid) (calm st log), OtherKept o q st s := by
  cases hpc : checkString pid with
  | error e =>
    intro s hs
    simp [deleteObject, runsimp, Prog.trail, hpc, calm, calmL] at hs
  | ok p =>
    obtain ⟨hp1, hp⟩ := checkString_ok_inv hpc
    subst hp1
    have hqp : q ≠ p := fun e => hq (by rw [e])
    cases h1 : st.pidRefs.get (o.hId p) with
    | none =>
      intro s hs
      simp [deleteObject, findObject, runsimp, Prog.trail, hpc, h1, calm, calmL] at hs
    | some c =>
      obtain ⟨p', hp', _, t, h2, hin⟩ := h.pid_listed _ _ h1
      have := hinj _ _ hp'; subst this
      obtain ⟨ls, hls, _, _, hall⟩ := h.list_ok c t h2
      subst hls
      have hsp : ∀ l ∈ ls, hasSpace l = false := fun l hl => nospace_of_ok (hall l hl).1
      have hmem : p ∈ ls := by rw [inRefs_render p ls hsp] at hin; simpa using hin
      by_cases hrest : ls.filter (fun l => !decide (l = p)) = []
      · cases hobj : st.objs.get c with
        | some x => exact delete_trail_main_last cfg o st log p c q ls x h hid hinj hqp hp h1 h2 hsp hmem hobj hrest
        | none => exact delete_trail_missing_last cfg o st log p c q ls h hid hinj hqp hp h1 h2 hsp hmem hobj hrest
      · cases hobj : st.objs.get c with
        | some x => exact delete_trail_main_keep cfg o st log p c q ls x h hid hinj hqp hp h1 h2 hsp hmem hobj hrest
        | none => exact delete_trail_missing_keep cfg o st log p c q ls h hid hinj hqp hp h1 h2 hsp hmem hobj hrest

end HS
