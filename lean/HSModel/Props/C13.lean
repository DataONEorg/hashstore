/-
  C13 — I/O failures surface as errors and leave no half-bound pid.
  The fault semantics is part of the one interpreter (`respond` consults the
  fault plan of the world), so every theorem proved for "any world" holds under
  every fault plan: any site kind, any destination, one-off or persistent.
  Proved (`_partial`):
   * under any plan, a call on pid p leaves every other pid's reference and
     documents untouched, and objects well addressed (C10 / C09 lemmas);
   * how a plan fires: a one-off plan fails at most one primitive; a one-off
     rename failure is absorbed by `shutil.move`'s copy fallback;
   * the full statement is FALSE of the model (and of the code): a persistent
     failure of reading the pid reference during `tag_object` leaves the pid
     half-bound and the retry is rejected — witness checked by `decide`; the same
     run is replayed on the real code by this check (known finding K4).
   * `store_metadata` under ANY fault plan, from any state: it returns the path
     and the document is the new version, or it raises and every document —
     the previous version of this one included — is as before.
   * `tag_object` and `store_object(pid, …)` under ANY fault plan, from any
     state: if the call returns normally then its whole effect was achieved —
     the pid reference names the (reported) cid and the cid's list names the
     pid; the reported cid and size are the data's.
   * `tag_object(p, c)` on an unbound pid under a ONE-OFF failure at each of the
     fault sites of its fault-free run (both starting cases: c without a list, c
     with a list not naming p; every store): it returns normally, or raises with
     everything released, p still unbound and every list text well formed — and
     the same call made again at once returns normally.
   * the same for `store_object(p, data)` without validation arguments, in the
     four starting cases (object absent / present, cid list absent / present):
     every fault site of placement and tagging; after the failure the pid is
     unbound, nothing foreign was added, and the same call made again at once
     returns normally and the data is retrievable.
     Both rest on a stronger fact (`tag_one_off`, `store_one_off`): under ANY one-off plan, aimed
     at a site of the run or not, the call returns normally or is rolled back.
  Not proved: that a one-off plan aimed at no site of the run never fires;
  `store_object` with validation arguments (established by the fault sweep of this check on the real code and by
  model/code agreement under every plan).
-/
import HSModel.Props.C09
import HSModel.Props.C10
import HSModel.Proofs.FaultMeta
import HSModel.Proofs.OkStore
import HSModel.Proofs.OkDelete
import HSModel.Proofs.RollbackAll
import HSModel.Proofs.RollbackStoreAll
import HSModel.Proofs.FaultDMeta
namespace HS.C13
variable (cfg : Config) (o : Oracle)

/-- under any fault plan (`w.fault` arbitrary), other pids are untouched -/
theorem others_untouched_under_any_fault (c : Call) (p q : Str) (hc : c.pidStr = some p)
    (hne : o.hId q ≠ o.hId p) (hlen : (o.hId q).length = (o.hId p).length) (w : World) (f : Fault) :
    C10.SameFor (o.hId q) w.st ((c.prog cfg o).run { w with fault := some f }).2.st :=
  C10.other_pids_untouched_after cfg o c p q hc hne hlen { w with fault := some f }

/-- under any fault plan, no object ever sits at an address that is not its digest -/
theorem objects_well_addressed_under_any_fault (c : Call) (w : World) (f : Fault)
    (h : C09.ObjsAddressed cfg o w.st) :
    C09.ObjsAddressed cfg o ((c.prog cfg o).run { w with fault := some f }).2.st :=
  C09.objects_well_addressed_after cfg o c { w with fault := some f } h

/-- `store_metadata` under any fault plan (any site kind, any destination, one-off
    or persistent, any state of the plan), from any store and any lock state in
    which the document's name is free: **the path is returned and the document
    is the new version, or an error is raised and every document is as before**
    (the previous version is intact) -/
theorem store_metadata_error_or_whole_effect (w : World) (p f : Str) (t : Tok) (fmt : SArg)
    (hp : checkStringOk p = true) (hf : checkArgFormatId cfg.ns fmt = .ok f)
    (hfree : o.hId (p ++ f) ∉ w.lk.doc) :
    (((storeMetadata cfg o (.str p) (.ok t) fmt).run w).1 = .ok (.path (.mdoc (o.hId p) (o.hId (p ++ f)))) ∧
        ((storeMetadata cfg o (.str p) (.ok t) fmt).run w).2.st.mdocs = w.st.mdocs.set (o.hId p, o.hId (p ++ f)) t) ∨
      (∃ e, ((storeMetadata cfg o (.str p) (.ok t) fmt).run w).1 = .error e ∧
        ((storeMetadata cfg o (.str p) (.ok t) fmt).run w).2.st.mdocs = w.st.mdocs) :=
  smeta_error_or_effect cfg o w p f t fmt hp hf hfree

/-- `delete_metadata(pid, format)` under ANY fault plan (any site, one-off or persistent, any state
    of the plan), from any store and any lock state in which the document's name is free: **it
    returns and exactly that document is gone, or an error is raised and every document is as
    before** -/
theorem delete_metadata_error_or_whole_effect (w : World) (p f : Str) (fmt : SArg) (hfmt : fmt ≠ .none)
    (hp : checkStringOk p = true) (hf : checkArgFormatId cfg.ns fmt = .ok f)
    (hfree : o.hId (p ++ f) ∉ w.lk.doc) :
    (((deleteMetadata cfg o (.str p) fmt).run w).1 = .ok .unit ∧
        ((deleteMetadata cfg o (.str p) fmt).run w).2.st.mdocs = w.st.mdocs.del (o.hId p, o.hId (p ++ f))) ∨
      (∃ e, ((deleteMetadata cfg o (.str p) fmt).run w).1 = .error e ∧
        ((deleteMetadata cfg o (.str p) fmt).run w).2.st.mdocs = w.st.mdocs) :=
  dmeta_error_or_effect cfg o w p f fmt hfmt hp hf hfree

/-- `tag_object` under any fault plan, from any store and any lock state:
    **a normal return means the whole effect** — the arguments were accepted, the
    pid reference holds the cid, and the cid's reference list names the pid -/
theorem tag_object_success_means_bound (pid cid : SArg) (w w' : World) (v : Val)
    (h : Prog.run (tagObject cfg o pid cid) w = (.ok v, w')) :
    ∃ p c, checkString pid = .ok p ∧ checkString cid = .ok c ∧
      w'.st.pidRefs.get (o.hId p) = some c ∧ ∃ t, w'.st.cidRefs.get c = some t ∧ inRefs p t = true :=
  tag_ok_inv cfg o pid cid w w' v h

/-- `store_object(pid, data, …)` under any fault plan, from any store and any
    lock state: **a normal return means the whole effect** — what is reported is
    the digest and size of the data, the pid reference holds that cid, and the
    cid's reference list names the pid -/
theorem store_object_success_means_bound (pid : SArg) (data : DataArg) (additional checksum csAlg : SArg)
    (expSize : IArg) (hnone : pid ≠ .none) (w w' : World) (v : Val)
    (h : Prog.run (storeObject cfg o pid data additional checksum csAlg expSize) w = (.ok v, w')) :
    ∃ p t m, checkString pid = .ok p ∧ openStream data = .ok t ∧ v = .objMeta m ∧
      m.cid = o.dig cfg.alg t ∧ m.size = o.size t ∧
      w'.st.pidRefs.get (o.hId p) = some m.cid ∧ ∃ x, w'.st.cidRefs.get m.cid = some x ∧ inRefs p x = true :=
  store_ok_inv cfg o pid data additional checksum csAlg expSize hnone w w' v h

/-- `delete_object(pid)` under any fault plan, from any store and any lock
    state: **a normal return means the pid has no pid reference any more** -/
theorem delete_object_success_means_unbound (p : Str) (w w' : World) (v : Val)
    (h : Prog.run (deleteObject cfg o (.str p)) w = (.ok v, w')) : w'.st.pidRefs.get (o.hId p) = none :=
  delete_ok_inv cfg o p w w' v h

/-- **one-off failures roll back** (c has no reference list): for every store in
    which p is unbound and c has no list, and every fault site of the call's
    fault-free run, a one-off failure there makes `tag_object(p, c)` either
    return normally or raise with all identifiers released, p still unbound, all
    list texts well formed, objects untouched, and the plan spent -/
theorem one_off_failure_rolls_back_new_list (st : Store) (log : List Eff) (p c : Str)
    (hp : checkStringOk p = true) (hc : checkStringOk c = true)
    (h1 : st.pidRefs.get (o.hId p) = none) (h2 : st.cidRefs.get c = none) :
    ∀ s ∈ tagSitesNew o p c, ∃ r w', (tagObject cfg o (.str p) (.str c)).run (planned st log s.1 s.2.1 s.2.2) = (r, w') ∧
      RolledBack o p st r w' :=
  fun s _ => ⟨_, _, rfl, tag_one_off cfg o st log p c hp hc h1 (Or.inl h2)
    { kind := s.1, target := s.2.1, nth := s.2.2, persistent := false } rfl⟩

/-- **one-off failures roll back** (c has a list that does not name p) -/
theorem one_off_failure_rolls_back_append (st : Store) (log : List Eff) (p c : Str) (ls : List Str)
    (hp : checkStringOk p = true) (hc : checkStringOk c = true) (h1 : st.pidRefs.get (o.hId p) = none)
    (h2 : st.cidRefs.get c = some (renderLines ls)) (hls : ∀ l ∈ ls, hasSpace l = false) (hnot : p ∉ ls) (hne : ls ≠ []) :
    ∀ s ∈ tagSitesAppend o p c, ∃ r w', (tagObject cfg o (.str p) (.str c)).run (planned st log s.1 s.2.1 s.2.2) = (r, w') ∧
      RolledBack o p st r w' :=
  fun s _ => ⟨_, _, rfl, tag_one_off cfg o st log p c hp hc h1 (taggable_of_lines h2 hls hnot)
    { kind := s.1, target := s.2.1, nth := s.2.2, persistent := false } rfl⟩

/-- the two site lists are exactly the fault sites the fault-free run passes, in
    order, with their occurrence numbers (nothing is left out) -/
theorem fault_sites_complete (st : Store) (log : List Eff) (p c : Str) (hp : checkStringOk p = true)
    (hc : checkStringOk c = true) (h1 : st.pidRefs.get (o.hId p) = none) :
    (st.cidRefs.get c = none → sitesOfRun (tagObject cfg o (.str p) (.str c)) (calm st log) = tagSitesNew o p c) ∧
    (∀ ls, st.cidRefs.get c = some (renderLines ls) → (∀ l ∈ ls, hasSpace l = false) → p ∉ ls →
      sitesOfRun (tagObject cfg o (.str p) (.str c)) (calm st log) = tagSitesAppend o p c) :=
  ⟨fun h2 => tag_sites_new_complete cfg o st log p c hp hc h1 h2,
   fun ls h2 hls hnot => tag_sites_append_complete cfg o st log p c ls hp hc h1 h2 hls hnot⟩

/-- **… and the pid can be tagged again at once**: after such a rolled-back
    failure, the same call made again (the spent plan still in place) returns normally -/
theorem retry_at_once_succeeds (st : Store) (p c : Str) (r : Except Exc Val) (w' : World)
    (hp : checkStringOk p = true) (hc : checkStringOk c = true) (hnl : AllNl st.cidRefs)
    (hrb : RolledBack o p st r w') (herr : ∀ v, r ≠ .ok v) :
    ((tagObject cfg o (.str p) (.str c)).run w').1 = .ok .unit :=
  retry_after_rollback cfg o st p c r w' hp hc hnl hrb herr

/-- **one-off failures of `store_object` roll back**, the four starting cases
    (every store in which p is unbound; c = digest of the data): a one-off failure
    at each fault site of the fault-free run leaves the call successful, or raised
    with everything released, p unbound, list texts well formed, no object added
    other than the data at its own address, and the plan spent -/
theorem store_one_off_failure_rolls_back (st : Store) (log : List Eff) (p : Str) (t : Tok)
    (hp : checkStringOk p = true) (hok : OkDigests o) (h1 : st.pidRefs.get (o.hId p) = none) :
    (st.cidRefs.get (o.dig cfg.alg t) = none → st.objs.get (o.dig cfg.alg t) = none →
      ∀ s ∈ storeSites_absent_new cfg o p t, ∃ r w', (storeObject cfg o (.str p) (.ok t) .none .none .none .none).run
        (planned st log s.1 s.2.1 s.2.2) = (r, w') ∧ RolledBackStore cfg o p t st r w') ∧
    (∀ x, st.cidRefs.get (o.dig cfg.alg t) = none → st.objs.get (o.dig cfg.alg t) = some x →
      ∀ s ∈ storeSites_present_new cfg o p t, ∃ r w', (storeObject cfg o (.str p) (.ok t) .none .none .none .none).run
        (planned st log s.1 s.2.1 s.2.2) = (r, w') ∧ RolledBackStore cfg o p t st r w') ∧
    (∀ ls, st.cidRefs.get (o.dig cfg.alg t) = some (renderLines ls) → (∀ l ∈ ls, hasSpace l = false) → p ∉ ls → ls ≠ [] →
      st.objs.get (o.dig cfg.alg t) = none →
      ∀ s ∈ storeSites_absent_app cfg o p t, ∃ r w', (storeObject cfg o (.str p) (.ok t) .none .none .none .none).run
        (planned st log s.1 s.2.1 s.2.2) = (r, w') ∧ RolledBackStore cfg o p t st r w') ∧
    (∀ ls x, st.cidRefs.get (o.dig cfg.alg t) = some (renderLines ls) → (∀ l ∈ ls, hasSpace l = false) → p ∉ ls → ls ≠ [] →
      st.objs.get (o.dig cfg.alg t) = some x →
      ∀ s ∈ storeSites_present_app cfg o p t, ∃ r w', (storeObject cfg o (.str p) (.ok t) .none .none .none .none).run
        (planned st log s.1 s.2.1 s.2.2) = (r, w') ∧ RolledBackStore cfg o p t st r w') :=
  have new (h2 : st.cidRefs.get (o.dig cfg.alg t) = none) (s : SiteKind × Target × Nat) :=
    store_one_off cfg o st log p t hp hok h1 (Or.inl h2)
      { kind := s.1, target := s.2.1, nth := s.2.2, persistent := false } rfl
  have app (ls : List Str) (h2 : st.cidRefs.get (o.dig cfg.alg t) = some (renderLines ls))
      (hls : ∀ l ∈ ls, hasSpace l = false) (hnot : p ∉ ls) (s : SiteKind × Target × Nat) :=
    store_one_off cfg o st log p t hp hok h1 (taggable_of_lines h2 hls hnot)
      { kind := s.1, target := s.2.1, nth := s.2.2, persistent := false } rfl
  ⟨fun h2 _ s _ => ⟨_, _, rfl, new h2 s⟩, fun _ h2 _ s _ => ⟨_, _, rfl, new h2 s⟩,
   fun ls h2 hls hnot _ _ s _ => ⟨_, _, rfl, app ls h2 hls hnot s⟩,
   fun ls _ h2 hls hnot _ _ s _ => ⟨_, _, rfl, app ls h2 hls hnot s⟩⟩

/-- the four site lists are exactly the fault sites of the fault-free runs -/
theorem store_fault_sites_complete (st : Store) (log : List Eff) (p : Str) (t : Tok)
    (hp : checkStringOk p = true) (hok : OkDigests o) (h1 : st.pidRefs.get (o.hId p) = none) :
    (st.cidRefs.get (o.dig cfg.alg t) = none → st.objs.get (o.dig cfg.alg t) = none →
      sitesOfRun (storeObject cfg o (.str p) (.ok t) .none .none .none .none) (calm st log) = storeSites_absent_new cfg o p t) ∧
    (∀ x, st.cidRefs.get (o.dig cfg.alg t) = none → st.objs.get (o.dig cfg.alg t) = some x →
      sitesOfRun (storeObject cfg o (.str p) (.ok t) .none .none .none .none) (calm st log) = storeSites_present_new cfg o p t) ∧
    (∀ ls, st.cidRefs.get (o.dig cfg.alg t) = some (renderLines ls) → (∀ l ∈ ls, hasSpace l = false) → p ∉ ls →
      st.objs.get (o.dig cfg.alg t) = none →
      sitesOfRun (storeObject cfg o (.str p) (.ok t) .none .none .none .none) (calm st log) = storeSites_absent_app cfg o p t) ∧
    (∀ ls x, st.cidRefs.get (o.dig cfg.alg t) = some (renderLines ls) → (∀ l ∈ ls, hasSpace l = false) → p ∉ ls →
      st.objs.get (o.dig cfg.alg t) = some x →
      sitesOfRun (storeObject cfg o (.str p) (.ok t) .none .none .none .none) (calm st log) = storeSites_present_app cfg o p t) :=
  ⟨fun h2 ho => store_sites_absent_new_complete cfg o st log p t hp hok h1 h2 ho,
   fun x h2 ho => store_sites_present_new_complete cfg o st log p t x hp hok h1 h2 ho,
   fun ls h2 hls hnot ho => store_sites_absent_app_complete cfg o st log p t ls hp hok h1 h2 hls hnot ho,
   fun ls x h2 hls hnot ho => store_sites_present_app_complete cfg o st log p t x ls hp hok h1 h2 hls hnot ho⟩

/-- **… and the pid can be stored again at once**: after a rolled-back failure,
    the same `store_object` call made again returns normally, and
    `retrieve_object` returns the data -/
theorem store_retry_at_once_succeeds (st : Store) (p : Str) (t : Tok) (r : Except Exc Val) (w' : World)
    (hp : checkStringOk p = true) (hok : OkDigests o) (hnl : AllNl st.cidRefs)
    (hfree : st.objs.get (o.dig cfg.alg t) = none ∨ st.objs.get (o.dig cfg.alg t) = some t)
    (hrb : RolledBackStore cfg o p t st r w') (herr : ∀ v, r ≠ .ok v) :
    ∃ m w2, (storeObject cfg o (.str p) (.ok t) .none .none .none .none).run w' = (.ok (.objMeta m), w2) ∧
      ((retrieveObject cfg o (.str p)).run { w2 with fault := none }).1 = .ok (.content t) :=
  store_retry_after_rollback cfg o st p t r w' hp hok hnl hfree hrb herr

/-- a one-off plan that has fired never fails another primitive -/
theorem one_off_fires_once (f : Fault) (e : Ev) (hf : f.fired = true) (hp : f.persistent = false) :
    (f.check e).1 = false := by
  unfold Fault.check
  simp [hf, hp]

/-- a plan that has not fired fails nothing that is not addressed to its
    destination with its kind -/
theorem unrelated_primitives_unaffected (f : Fault) (e : Ev) (hf : f.fired = false)
    (h : ∀ s ∈ e.sites, ¬ (s.1 = f.kind ∧ s.2 = f.target)) : (f.check e).1 = false := by
  unfold Fault.check
  have hmem : ¬ (f.kind, f.target) ∈ e.sites := by
    intro hm
    exact h _ hm ⟨rfl, rfl⟩
  simp [hf, hmem]

/-- a one-off failure of the rename is absorbed: `shutil.move` copies instead,
    and the move still happens (the plan is marked fired) -/
theorem one_off_rename_absorbed (f : Fault) (e : Ev) (hf : f.fired = false) (hk : f.kind = .rename)
    (hp : f.persistent = false) : (f.check e).1 = false := by
  unfold Fault.check
  simp only [hf, Bool.false_eq_true, if_false]
  split
  · split
    · simp [hk, hp]
    · rfl
  · rfl

/-! ### the full statement is false: witness K4 -/

def oW : Oracle :=
  { hId := fun s => 'h' :: s, dig := fun _ t => if t = 1 then "c1".toList else "c2".toList, size := fun _ => 1 }
def cfgW : Config := { depth := 1, width := 1, alg := "sha256".toList, ns := "ns".toList }
/-- empty store, with a persistent failure of opening p's pid reference for reading -/
def wK4 : World :=
  { st := Store.empty,
    fault := some { kind := .openRead, target := .loc (.pidRef "hp".toList), nth := 0, persistent := true } }
def afterFailedTag := (tagObject cfgW oW (.str "p".toList) (.str "c1".toList)).run wK4
def worldForRetry : World := { st := afterFailedTag.2.st, lk := afterFailedTag.2.lk }
def retry := (tagObject cfgW oW (.str "p".toList) (.str "c1".toList)).run worldForRetry

/-- "after a failed tag_object the pid is unbound and can be tagged again at
    once" is false: the call fails with an OSError, the pid reference stays in
    place, nothing is left locked, and the fault-free retry is rejected. -/
theorem full_refuted :
    afterFailedTag.1 = .error .osError ∧
    afterFailedTag.2.st.pidRefs.get "hp".toList = some "c1".toList ∧
    afterFailedTag.2.lk = {} ∧
    retry.1 = .error .hashStoreRefsAlreadyExists := by decide

def wOnce : World :=
  { st := Store.empty,
    fault := some { kind := .openRead, target := .loc (.pidRef "hp".toList), nth := 0, persistent := false } }
def afterOnce := (tagObject cfgW oW (.str "p".toList) (.str "c1".toList)).run wOnce
def retryOnce := (tagObject cfgW oW (.str "p".toList) (.str "c1".toList)).run
  { st := afterOnce.2.st, lk := afterOnce.2.lk }

/-- the one-off variant of the same failure rolls back and the retry succeeds -/
theorem one_off_rolls_back :
    afterOnce.1 = .error .osError ∧ afterOnce.2.st.pidRefs.get "hp".toList = none ∧
    afterOnce.2.lk = {} ∧ retryOnce.1 = .ok .unit := by
  decide

end HS.C13
