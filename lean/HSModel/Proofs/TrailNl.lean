/-
  TrailNl — every store on the trail of the five calls has newline-terminated
  list texts (so the recovery theorem applies to every crash state).
-/
import HSModel.Proofs.Recover
namespace HS
variable (cfg : Config) (o : Oracle)

theorem allNl_of_exact {st : Store} (h : RefsExact o st) : AllNl st.cidRefs := by
  intro c t ht
  obtain ⟨ls, hls, _⟩ := h.list_ok c t ht
  rw [hls]; exact nlTerm_render ls

theorem nlTerm_line (p : Str) : NlTerm (p ++ ['\n']) := by
  right; simp

/-- close `AllNl` of a map built from `st.cidRefs` by sets and deletes of well-formed texts -/
local macro "nl_close" hnl:ident : tactic =>
  `(tactic| (
    try dsimp only
    repeat (first
      | exact $hnl
      | exact nlTerm_line _
      | exact nlTerm_render _
      | exact nlTerm_nil
      | (refine nlTerm_overwrite _ _ ?_ ?_)
      | (refine allNl_del ?_ _)
      | (refine allNl_set ?_ _ _ ?_))))

theorem tag_trail_nl (l : List Str) (st : Store) (log : List Eff) (pid cid : SArg) (h : RefsExact o st) :
    ∀ s ∈ Prog.trail (tagObject cfg o pid cid) (calmL l st log), AllNl s.cidRefs := by
  have hnl := allNl_of_exact o h
  cases hpc : checkString pid with
  | error e => intro s hs; simp [tagObject, runsimp, Prog.trail, hpc, calmL] at hs
  | ok p =>
    cases hcc : checkString cid with
    | error e => intro s hs; simp [tagObject, runsimp, Prog.trail, hpc, hcc, calmL] at hs
    | ok c =>
      obtain ⟨hp1, hp⟩ := checkString_ok_inv hpc
      obtain ⟨hc1, hc⟩ := checkString_ok_inv hcc
      subst hp1 hc1
      intro s hs
      revert s
      cases h1 : st.pidRefs.get (o.hId p) with
      | some x =>
        cases h2 : st.cidRefs.get c with
        | some t =>
          by_cases hx : x = c
          · by_cases hin : inRefs p t = true
            · simp [calmL, tagObject, storeRefs, runsimp, Prog.trail, checkString_of_ok hp, checkString_of_ok hc, h1, h2, verifyRefs, hx, hin, or_imp, forall_and]
              repeat' apply And.intro
              all_goals first | exact hnl | nl_close hnl
            · simp [calmL, tagObject, storeRefs, runsimp, Prog.trail, checkString_of_ok hp, checkString_of_ok hc, h1, h2, verifyRefs, hx, hin, or_imp, forall_and]
              repeat' apply And.intro
              all_goals first | exact hnl | nl_close hnl
          · simp [calmL, tagObject, storeRefs, runsimp, Prog.trail, checkString_of_ok hp, checkString_of_ok hc, h1, h2, verifyRefs, hx, or_imp, forall_and]
            repeat' apply And.intro
            all_goals first | exact hnl | nl_close hnl
        | none =>
          simp [calmL, tagObject, storeRefs, runsimp, Prog.trail, checkString_of_ok hp, checkString_of_ok hc, h1, h2, or_imp, forall_and]
          repeat' apply And.intro
          all_goals first | exact hnl | nl_close hnl
      | none =>
        cases h2 : st.cidRefs.get c with
        | some t =>
          obtain ⟨ls, hls, _, _, hall⟩ := h.list_ok c t h2
          subst hls
          have hsp : ∀ l ∈ ls, hasSpace l = false := fun l hl => nospace_of_ok (hall l hl).1
          have hnot : p ∉ ls := by
            intro hin; have := (hall p hin).2; rw [h1] at this; cases this
          have hin : inRefs p (renderLines ls) = false := by
            rw [inRefs_render p ls hsp]; simpa using hnot
          have hls' : ∀ l ∈ ls ++ [p], hasSpace l = false := by
            intro l hl
            rcases List.mem_append.mp hl with h' | h'
            · exact hsp l h'
            · simp at h'; subst h'; exact nospace_of_ok hp
          have hin' : inRefs p (renderLines (ls ++ [p])) = true := by
            rw [inRefs_render p _ hls']; simp
          simp [calmL, tagObject, storeRefs, runsimp, Prog.trail, checkString_of_ok hp, checkString_of_ok hc, h1, h2, writeRefsTmp, verifyRefs,
            updateRefsAdd, hin, renderLines_snoc, hin', or_imp, forall_and]
          repeat' apply And.intro
          all_goals first | exact hnl | nl_close hnl
        | none =>
          simp [calmL, tagObject, storeRefs, runsimp, Prog.trail, checkString_of_ok hp, checkString_of_ok hc, h1, h2, writeRefsTmp, verifyRefs,
            inRefs, pyLines_single p (nospace_of_ok hp), or_imp, forall_and]
          repeat' apply And.intro
          all_goals first | exact hnl | nl_close hnl

end HS

namespace HS
variable (cfg : Config) (o : Oracle)

local macro "nl_close2" hnl:ident : tactic =>
  `(tactic| (
    try dsimp only
    repeat (first
      | exact $hnl
      | exact nlTerm_line _
      | exact nlTerm_render _
      | exact nlTerm_nil
      | (refine nlTerm_overwrite _ _ ?_ ?_)
      | (refine allNl_del ?_ _)
      | (refine allNl_set ?_ _ _ ?_))))

/-- inside `delete_metadata` the lists are those of its start -/
local macro "nl_dmc" o:ident p:ident hnl:ident : tactic =>
  `(tactic| (
    intro s hs
    obtain ⟨_, e2, _⟩ := dmc_trail_refs $o $p none _ s hs
    rw [e2]
    nl_close2 $hnl))

theorem delete_trail_nl (st : Store) (log : List Eff) (pid : SArg) (h : RefsExact o st) (hinj : Inj o.hId) :
    ∀ s ∈ Prog.trail (deleteObject cfg o pid) (calm st log), AllNl s.cidRefs := by
  have hnl := allNl_of_exact o h
  cases hpc : checkString pid with
  | error e => intro s hs; simp [deleteObject, runsimp, Prog.trail, hpc, calm, calmL] at hs
  | ok p =>
    obtain ⟨hp1, hp⟩ := checkString_ok_inv hpc
    subst hp1
    cases h1 : st.pidRefs.get (o.hId p) with
    | none => intro s hs; simp [deleteObject, findObject, runsimp, Prog.trail, hpc, h1, calm, calmL] at hs
    | some c =>
      obtain ⟨p', hp', _, t, h2, hin⟩ := h.pid_listed _ _ h1
      have := hinj _ _ hp'; subst this
      obtain ⟨ls, hls, _, _, hall⟩ := h.list_ok c t h2
      subst hls
      have hsp : ∀ l ∈ ls, hasSpace l = false := fun l hl => nospace_of_ok (hall l hl).1
      intro s hs
      revert s
      by_cases hrest : ls.filter (fun l => !decide (l = p)) = []
      · cases hobj : st.objs.get c with
        | some x =>
          simp [calm, calmL, deleteObject, findObject, runsimp, Prog.trail, checkString_of_ok hp, h1, h2, hin,
            updateRefsRemove, removeLines_render p ls hsp, overwrite_truncate, deleteMarked, renderLines_eq_nil,
            Prog.run_bind_pe, Prog.run_bind, Prog.trail_bind_pe, Prog.trail_bind, Loc.marker, dmc_run_eq, dmc_lk, dmc_fault,
            dmc_pid, dmc_cid, dmc_obj, dmc_tr, dmc_to, hobj, hrest, or_imp, forall_and]
          repeat' apply And.intro
          all_goals first | exact hnl | nl_dmc o p hnl | (nl_close2 hnl; done)
        | none =>
          simp [calm, calmL, deleteObject, findObject, runsimp, Prog.trail, checkString_of_ok hp, h1, h2, hin,
            updateRefsRemove, removeLines_render p ls hsp, overwrite_truncate, deleteMarked, renderLines_eq_nil,
            Prog.run_bind_pe, Prog.run_bind, Prog.trail_bind_pe, Prog.trail_bind, Loc.marker, dmc_run_eq, dmc_lk, dmc_fault,
            dmc_pid, dmc_cid, dmc_obj, dmc_tr, dmc_to, hobj, hrest, or_imp, forall_and]
          repeat' apply And.intro
          all_goals first | exact hnl | nl_dmc o p hnl | (nl_close2 hnl; done)
      · cases hobj : st.objs.get c with
        | some x =>
          simp [calm, calmL, deleteObject, findObject, runsimp, Prog.trail, checkString_of_ok hp, h1, h2, hin,
            updateRefsRemove, removeLines_render p ls hsp, overwrite_truncate, deleteMarked, renderLines_eq_nil,
            Prog.run_bind_pe, Prog.run_bind, Prog.trail_bind_pe, Prog.trail_bind, Loc.marker, dmc_run_eq, dmc_lk, dmc_fault,
            dmc_pid, dmc_cid, dmc_obj, dmc_tr, dmc_to, hobj, hrest, or_imp, forall_and]
          repeat' apply And.intro
          all_goals first | exact hnl | nl_dmc o p hnl | (nl_close2 hnl; done)
        | none =>
          simp [calm, calmL, deleteObject, findObject, runsimp, Prog.trail, checkString_of_ok hp, h1, h2, hin,
            updateRefsRemove, removeLines_render p ls hsp, overwrite_truncate, deleteMarked, renderLines_eq_nil,
            Prog.run_bind_pe, Prog.run_bind, Prog.trail_bind_pe, Prog.trail_bind, Loc.marker, dmc_run_eq, dmc_lk, dmc_fault,
            dmc_pid, dmc_cid, dmc_obj, dmc_tr, dmc_to, hobj, hrest, or_imp, forall_and]
          repeat' apply And.intro
          all_goals first | exact hnl | nl_dmc o p hnl | (nl_close2 hnl; done)

end HS

namespace HS
variable (cfg : Config) (o : Oracle)

/-- primitives that do not write a cid reference list -/
def NoCid : Ev → Prop
  | .eff (.publishCidRef _ _) => False
  | .eff (.appendCid _ _) => False
  | .eff (.rewriteCid _ _) => False
  | .eff (.truncateCid _ _) => False
  | .eff (.retire (.cidRef _)) => False
  | .eff (.remove (.cidRef _)) => False
  | _ => True

theorem findObject_noCid (pid : Str) : (findObject cfg o pid).AllEv NoCid := by
  unfold findObject
  repeat allev_step

theorem hexDigestCore_noCid (pid alg : Str) : (hexDigestCore cfg o pid alg).AllEv NoCid := by
  unfold hexDigestCore
  repeat (first | exact findObject_noCid cfg o _ | allev_step)

theorem mv_noCid (pid : Option Str) (t : Tok) (add cs cks : Option Str) (sz : IArg) :
    (moveAndGetChecksums cfg o pid t add cs cks sz).AllEv NoCid := by
  unfold moveAndGetChecksums
  repeat (first | exact hexDigestCore_noCid cfg o _ _ | allev_step)

theorem cid_same_noCid (m : FMap Str Str) : Prog.Preserved NoCid (fun w => w.st.cidRefs = m) := by
  apply preserved_of_store (J := fun s => s.cidRefs = m)
  intro s x hx h
  dsimp only [Store.after]
  split <;> first | exact hx.elim | exact h

theorem mv_trail_cid (pid : Option Str) (t : Tok) (add cs cks : Option Str) (sz : IArg) (w : World) :
    ∀ s ∈ Prog.trail (moveAndGetChecksums cfg o pid t add cs cks sz) w, s.cidRefs = w.st.cidRefs :=
  Prog.trail_inv (J := fun s => s.cidRefs = w.st.cidRefs) _ (mv_noCid cfg o pid t add cs cks sz)
    (cid_same_noCid w.st.cidRefs) w rfl

theorem store_trail_nl (st : Store) (log : List Eff) (pid : SArg) (data : DataArg) (additional checksum csAlg : SArg)
    (expSize : IArg) (h : RefsExact o st) (hdg : PlainDigests o) :
    ∀ s ∈ Prog.trail (storeObject cfg o pid data additional checksum csAlg expSize) (calm st log), AllNl s.cidRefs := by
  have hnl := allNl_of_exact o h
  by_cases hnone : pid = .none
  · subst hnone
    cases hd : checkArgData data with
    | error e => intro s hs; simp [storeObject, runsimp, Prog.trail, hd, calm, calmL] at hs
    | ok _ =>
      cases hs : openStream data with
      | error e => intro s hs'; simp [storeObject, runsimp, Prog.trail, hd, hs, calm, calmL] at hs'
      | ok t =>
        intro s hs'
        simp [storeObject, runsimp, hd, hs, calm, Prog.trail_bind_pe'] at hs'
        rcases hs' with hs' | hs'
        · rw [mv_trail_cid cfg o none t none none none .none _ s hs']; exact hnl
        · cases hr : (Prog.run (moveAndGetChecksums cfg o none t none none none IArg.none) (calmL [] st log)).1 <;>
            simp [hr, Prog.trail] at hs'
  · rw [storeObject_pid_unfold cfg o pid data additional checksum csAlg expSize hnone]
    cases hpc : checkString pid with
    | error e => intro s hs; simp [runsimp, Prog.trail] at hs
    | ok p =>
      cases hd : checkArgData data with
      | error e => intro s hs; simp [runsimp, Prog.trail] at hs
      | ok _ =>
        cases hi : checkInteger expSize with
        | error e => intro s hs; simp [runsimp, Prog.trail] at hs
        | ok _ =>
          cases hac : checkArgAlgorithmsAndChecksum cfg.alg additional checksum csAlg with
          | error e => intro s hs; simp [runsimp, Prog.trail] at hs
          | ok ac =>
            obtain ⟨add', cs'⟩ := ac
            cases hst : openStream data with
            | error e => intro s hs; simp [runsimp, Prog.trail, calm, calmL] at hs
            | ok t =>
              obtain ⟨hp1, hpok⟩ := checkString_ok_inv hpc
              subst hp1
              obtain ⟨st1, log1, hrun1, f1, f2, f3, f4, f5, f6, f7, f8⟩ :=
                mv_run_pid_spec cfg o [p] st log p t add' cs' (strArg checksum) expSize
              have hex1 : RefsExact o st1 := by
                refine ⟨?_, ?_, by rw [f3, f4]; exact h.no_tmp, ?_, ?_⟩
                · intro k c hk; rw [f1] at hk; rw [f2]; exact h.pid_listed k c hk
                · intro c x hx; rw [f2] at hx; rw [f1]; exact h.list_ok c x hx
                · intro c x hx; rw [f2] at hx; exact h.cid_plain c x hx
                · intro c x hx
                  rw [f8 c] at hx
                  split at hx
                  · rename_i hc; rw [← hc.2.2]; exact hdg _ _
                  · exact h.obj_plain c x hx
              intro s hs
              simp only [calmL] at hrun1
              have hmv : ∀ s ∈ Prog.trail (moveAndGetChecksums cfg o (some p) t add' cs' (strArg checksum) expSize)
                  { st := st, lk := { objPid := [p] }, log := log }, AllNl s.cidRefs := by
                intro s hs
                rw [mv_trail_cid cfg o (some p) t add' cs' (strArg checksum) expSize _ s hs]; exact hnl
              cases hv : (verdict ((refineAlgorithmList defaultAlgos add' cs').map fun a => (a, o.dig a t))
                  (fun a => o.dig a t) (o.size t) expSize (strArg checksum) cs').exc with
              | some e =>
                rw [hv] at hrun1
                simp [runsimp, Prog.trail, calm, calmL, Prog.trail_bind_pe', Prog.trail_bind, Prog.run_bind, Prog.run_bind_pe,
                  hrun1] at hs
                exact hmv s hs
              | none =>
                rw [hv] at hrun1
                obtain ⟨r2, st2, log2, hrun2, _, _⟩ := tag_run cfg o [p] st1 log1 (.str p) (.str (o.dig cfg.alg t)) hex1
                  (by intro c hc; cases hc; exact hdg _ _)
                simp only [calmL] at hrun2
                simp [runsimp, Prog.trail, calm, calmL, Prog.trail_bind_pe', Prog.trail_bind, Prog.run_bind, Prog.run_bind_pe,
                  hrun1, hrun2] at hs
                rcases hs with hs | hs
                · exact hmv s hs
                · rcases hs with hs | hs
                  · exact tag_trail_nl cfg o [p] st1 log1 (.str p) (.str (o.dig cfg.alg t)) hex1 s hs
                  · exfalso
                    revert hs
                    cases r2 <;> simp [Prog.trail, runsimp]

/-- the five calls of the property's quantifier: list texts stay newline-terminated all along the trail -/
theorem trail_nl (c : Call) (st : Store) (log : List Eff) (h : RefsExact o st) (ho : GoodOracle o)
    (hc : (∃ a b d e f g, c = .storeObject a b d e f g) ∨ (∃ a b, c = .tagObject a b) ∨ (∃ a, c = .deleteObject a) ∨
          (∃ a b d, c = .storeMetadata a b d) ∨ (∃ a b, c = .deleteMetadata a b)) :
    ∀ s ∈ Prog.trail (c.prog cfg o) (calm st log), AllNl s.cidRefs := by
  have hnl := allNl_of_exact o h
  rcases hc with ⟨a, b, d, e, f, g, rfl⟩ | ⟨a, b, rfl⟩ | ⟨a, rfl⟩ | ⟨a, b, d, rfl⟩ | ⟨a, b, rfl⟩
  · exact store_trail_nl cfg o st log a b d e f g h ho.plainDigests
  · exact tag_trail_nl cfg o [] st log a b h
  · exact delete_trail_nl cfg o st log a h ho.inj
  · intro s hs
    have := Prog.trail_inv _ (storeMetadata_docsOnly cfg o a b d) (refsAs_docsOnly st) (calm st log) ⟨rfl, rfl, rfl⟩ s hs
    rw [this.2.1]; exact hnl
  · intro s hs
    have := Prog.trail_inv _ (deleteMetadata_docsOnly cfg o a b) (refsAs_docsOnly st) (calm st log) ⟨rfl, rfl, rfl⟩ s hs
    rw [this.2.1]; exact hnl

end HS
