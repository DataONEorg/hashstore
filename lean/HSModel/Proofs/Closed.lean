/-
  Closed — closed forms of calls on explicit worlds: the sequential run of a
  call, from a world with free locks and no fault plan, computed symbolically.
  Helper lemmas (the property statements that use them are in Props/).
-/
import HSModel.Proofs.RunSub
namespace HS

theorem pyLines_single (p : Str) (hp : hasSpace p = false) : pyLines (p ++ ['\n']) = [p] := by
  have := pyLines_render [p] (by intro l hl; simp at hl; subst hl; exact hp)
  simpa [renderLines] using this

theorem checkString_of_ok {p : Str} (hp : checkStringOk p = true) : checkString (.str p) = .ok p := by
  simp [checkString, hp]

theorem nospace_of_ok {p : Str} (hp : checkStringOk p = true) : hasSpace p = false :=
  ((checkStringOk_iff p).mp hp).2

variable (cfg : Config) (o : Oracle)

/-- the world reached from `(st, log)` with free locks and no fault plan -/
def calmL (l : List Str) (st : Store) (log : List Eff) : World :=
  { st := st, lk := { objPid := l }, fault := none, log := log }

/-- … with no lock held at all -/
def calm (st : Store) (log : List Eff) : World := calmL [] st log

/-! ### tag_object -/

theorem tag_neither (l : List Str) (st : Store) (log : List Eff) (p c : Str) (hp : checkStringOk p = true)
    (hc : checkStringOk c = true) (h1 : st.pidRefs.get (o.hId p) = none) (h2 : st.cidRefs.get c = none) :
    (tagObject cfg o (.str p) (.str c)).run (calmL l st log) =
      (.ok .unit,
       calmL l { st with pidRefs := st.pidRefs.set (o.hId p) c, cidRefs := st.cidRefs.set c (p ++ ['\n']),
                          dirs := (Area.cidRef, c) :: (Area.pidRef, o.hId p) :: st.dirs }
         (log ++ [Eff.mkdirs Area.pidRef (o.hId p), Eff.mkdirs Area.cidRef c, Eff.mkTmp TmpArea.refs,
                  Eff.mkTmp TmpArea.refs, Eff.publishPidRef (o.hId p) c, Eff.publishCidRef c (p ++ ['\n'])])) := by
  simp [calmL, tagObject, storeRefs, runeq, checkString_of_ok hp, checkString_of_ok hc, h1, h2, Store.verify, inRefs,
    pyLines_single p (nospace_of_ok hp)]

theorem tag_pid_only (l : List Str) (st : Store) (log : List Eff) (p c x : Str) (hp : checkStringOk p = true)
    (hc : checkStringOk c = true) (h1 : st.pidRefs.get (o.hId p) = some x) (h2 : st.cidRefs.get c = none) :
    (tagObject cfg o (.str p) (.str c)).run (calmL l st log) =
      (.error .pidRefsAlreadyExists,
       calmL l { st with dirs := (Area.cidRef, c) :: (Area.pidRef, o.hId p) :: st.dirs }
         (log ++ [Eff.mkdirs Area.pidRef (o.hId p), Eff.mkdirs Area.cidRef c])) := by
  simp [calmL, tagObject, storeRefs, runeq, checkString_of_ok hp, checkString_of_ok hc, h1, h2]

theorem tag_both (l : List Str) (st : Store) (log : List Eff) (p c x t : Str) (hp : checkStringOk p = true)
    (hc : checkStringOk c = true) (h1 : st.pidRefs.get (o.hId p) = some x) (h2 : st.cidRefs.get c = some t) :
    (tagObject cfg o (.str p) (.str c)).run (calmL l st log) =
      (.error .hashStoreRefsAlreadyExists,
       calmL l { st with dirs := (Area.cidRef, c) :: (Area.pidRef, o.hId p) :: st.dirs }
         (log ++ [Eff.mkdirs Area.pidRef (o.hId p), Eff.mkdirs Area.cidRef c])) := by
  -- whatever the verification finds, the same error is raised
  cases hv : Store.verify o { st with dirs := (Area.cidRef, c) :: (Area.pidRef, o.hId p) :: st.dirs } p c <;>
    simp [calmL, tagObject, storeRefs, runeq, checkString_of_ok hp, checkString_of_ok hc, h1, h2, hv]

/-- the cid already has a well-formed list: the pid reference is written and the
    pid appended (or found already listed) -/
theorem tag_cid_only (l : List Str) (st : Store) (log : List Eff) (p c : Str) (ls : List Str) (hp : checkStringOk p = true)
    (hc : checkStringOk c = true) (h1 : st.pidRefs.get (o.hId p) = none)
    (h2 : st.cidRefs.get c = some (renderLines ls)) (hls : ∀ l ∈ ls, hasSpace l = false) (hnot : p ∉ ls) :
    (tagObject cfg o (.str p) (.str c)).run (calmL l st log) =
      (.ok .unit,
       calmL l { st with pidRefs := st.pidRefs.set (o.hId p) c, cidRefs := st.cidRefs.set c (renderLines (ls ++ [p])),
                          dirs := (Area.cidRef, c) :: (Area.pidRef, o.hId p) :: st.dirs }
         (log ++ [Eff.mkdirs Area.pidRef (o.hId p), Eff.mkdirs Area.cidRef c, Eff.mkTmp TmpArea.refs,
                  Eff.publishPidRef (o.hId p) c, Eff.appendCid c (p ++ ['\n'])])) := by
  have hsp := nospace_of_ok hp
  have hin : inRefs p (renderLines ls) = false := by
    rw [inRefs_render p ls hls]; simpa using hnot
  have hls' : ∀ l ∈ ls ++ [p], hasSpace l = false := by
    intro l hl
    rcases List.mem_append.mp hl with h | h
    · exact hls l h
    · simp at h; subst h; exact hsp
  have hin' : inRefs p (renderLines (ls ++ [p])) = true := by
    rw [inRefs_render p _ hls']; simp
  simp [calmL, tagObject, storeRefs, runeq, checkString_of_ok hp, checkString_of_ok hc, h1, h2, Store.verify, hin,
    run_updateRefsAdd, renderLines_snoc, hin']

end HS
