/-
  OneOff — what a one-off fault plan can do to a run. `Prog.failures m w` lists, for the
  fault-free world `w`, the outcomes of the runs in which exactly one primitive is answered
  `OSError` and every other one fault-free. Under ANY one-off plan the run of `m` is, up to
  the plan it carries, the fault-free run or one of these (`Prog.run_one_off`), and in the
  second case the plan is spent. So "a one-off failure is rolled back" is a statement about
  `failures` alone, and no plan has to be executed.
-/
import HSModel.Proofs.MetaRun
import HSModel.Proofs.RunInv
namespace HS

/-! ### the plan, one primitive at a time -/

/-- primitives an injected one-off failure can fail: those with a site that is not a
    rename (a failed rename is absorbed by the copy fallback of `shutil.move`) -/
def Ev.failable (e : Ev) : Bool := e.sites.any fun s => decide (s.1 ≠ .rename)

theorem Fault.check_persistent (f : Fault) (e : Ev) : (f.check e).2.persistent = f.persistent := by
  simp only [Fault.check]
  repeat' split
  all_goals rfl

theorem Fault.check_spent (f : Fault) (e : Ev) (hf : f.fired = true) (hp : f.persistent = false) :
    f.check e = (false, f) := by
  unfold Fault.check; simp [hf, hp]

/-- a one-off plan fails a primitive only by firing, and only a failable one -/
theorem Fault.check_fails {f : Fault} {e : Ev} (hp : f.persistent = false) (h : (f.check e).1 = true) :
    e.failable = true ∧ (f.check e).2.fired = true := by
  simp only [Fault.check] at h ⊢
  by_cases hf : f.fired = true
  · simp [hf, hp] at h
  · simp only [hf, Bool.false_eq_true, if_false] at h ⊢
    split at h
    · rename_i hany
      split at h
      · split at h
        · cases h
        · rename_i hn hk
          rw [if_pos hany, if_pos hn, if_neg hk]
          refine ⟨?_, rfl⟩
          obtain ⟨s, hs, hd⟩ := List.any_eq_true.1 hany
          have hs1 : s.1 = f.kind := (of_decide_eq_true hd).1
          refine List.any_eq_true.2 ⟨s, hs, decide_eq_true ?_⟩
          rw [hs1]
          intro hr; exact hk ⟨hr, by simp [hp]⟩
      · cases h
    · cases h

theorem respond_calm (w : World) (e : Ev) (hw : w.fault = none) : respond w e = respondCore w e := by
  simp [respond, faultStep, hw]

theorem respond_keeps_none (w : World) (e : Ev) (h : w.fault = none) : (respond w e).2.fault = none := by
  have := respondCore_fault w none e
  rw [respond_calm w e h]
  obtain ⟨st, lk, fault, log⟩ := w
  simp only at h; subst h
  rw [this]

theorem world_eta_none (x : World) (h : x.fault = none) : ({ x with fault := none } : World) = x := by
  obtain ⟨st, lk, fault, log⟩ := x
  simp only at h; subst h; rfl

/-- the planned world answers as the fault-free one, unless the plan fails the primitive -/
theorem respond_planned (w : World) (e : Ev) (hw : w.fault = none) (f : Fault) :
    respond { w with fault := some f } e =
      if (f.check e).1 then (.err .osError, { w with fault := some (f.check e).2 })
      else ((respond w e).1, { (respond w e).2 with fault := some (f.check e).2 }) := by
  rw [respond_calm w e hw]
  cases hb : (f.check e).1 <;> simp only [respond, faultStep, hb, Bool.false_eq_true, if_true, if_false]
  exact respondCore_fault w _ e

namespace Prog
variable {α β : Type}

/-- a one-off plan that has fired is inert: the run is the fault-free run, the plan carried along -/
theorem run_spent (m : Prog α) (w : World) (hw : w.fault = none) (f : Fault) (hf : f.fired = true)
    (hp : f.persistent = false) :
    m.run { w with fault := some f } = ((m.run w).1, { (m.run w).2 with fault := some f }) := by
  induction m generalizing w with
  | ret a => rfl
  | op e k ih =>
    simp only [run, respond_planned w e hw, Fault.check_spent f e hf hp, Bool.false_eq_true, if_false]
    exact ih _ _ (respond_keeps_none w e hw)

/-- the outcomes of the runs from the fault-free world `w` in which exactly one failable
    primitive is answered `OSError`, in the order of that primitive -/
def failures : Prog α → World → List (α × World)
  | .ret _, _ => []
  | .op e k, w =>
    (if e.failable then [(k (.err .osError)).run w] else []) ++ failures (k (respond w e).1) (respond w e).2

/-- **a one-off plan, whatever it aims at**: the run is the fault-free run, or a failure
    outcome with the plan spent -/
theorem run_one_off (m : Prog α) (w : World) (hw : w.fault = none) (f : Fault) (hp : f.persistent = false) :
    ∃ f', f'.persistent = false ∧
      (m.run { w with fault := some f } = ((m.run w).1, { (m.run w).2 with fault := some f' }) ∨
        f'.fired = true ∧ ∃ x ∈ m.failures w, m.run { w with fault := some f } = (x.1, { x.2 with fault := some f' })) := by
  induction m generalizing w f with
  | ret a => exact ⟨f, hp, Or.inl rfl⟩
  | op e k ih =>
    have hp1 : (f.check e).2.persistent = false := by rw [Fault.check_persistent]; exact hp
    simp only [run, respond_planned w e hw, failures]
    cases hb : (f.check e).1
    · obtain ⟨f', hp', h⟩ := ih _ _ (respond_keeps_none w e hw) _ hp1
      refine ⟨f', hp', ?_⟩
      rcases h with h | ⟨hf, x, hx, h⟩
      · exact Or.inl h
      · exact Or.inr ⟨hf, x, List.mem_append_right _ hx, h⟩
    · obtain ⟨hfa, hfired⟩ := Fault.check_fails hp hb
      refine ⟨_, hp1, Or.inr ⟨hfired, _, ?_, run_spent _ w hw _ hfired hp1⟩⟩
      simp [hfa]

theorem failures_bind (m : Prog α) (g : α → Prog β) (w : World) :
    (Prog.bind m g).failures w =
      (m.failures w).map (fun x => (g x.1).run x.2) ++ (g (m.run w).1).failures (m.run w).2 := by
  induction m generalizing w with
  | ret a => rfl
  | op e k ih =>
    simp only [Prog.bind, failures, run, ih, List.map_append, List.append_assoc, run_bind]
    split <;> rfl

/-- a program without failable primitives has no failure outcome -/
theorem failures_eq_nil (m : Prog α) (h : m.AllEv fun e => e.failable = false) (w : World) : m.failures w = [] := by
  induction m generalizing w with
  | ret a => rfl
  | op e k ih => simp [failures, h.1, ih _ (h.2 _)]

end Prog

/-! ### the same, through the combinators of programs that may raise -/
namespace PE
variable {α β : Type}

theorem failures_bind (m : PE α) (g : α → PE β) (w : World) :
    Prog.failures (m >>= g : PE β) w =
      (Prog.failures m w).map (fun x => match x.1 with
        | .ok a => Prog.run (g a) x.2
        | .error e => (.error e, x.2)) ++
      (match (Prog.run m w).1 with
        | .ok a => Prog.failures (g a) (Prog.run m w).2
        | .error _ => []) := by
  refine (Prog.failures_bind (α := Except Exc α) m _ w).trans ?_
  congr 1
  · apply List.map_congr_left
    intro x _
    cases x.1 <;> rfl
  · cases (Prog.run m w).1 <;> rfl

/-- a failure in the guarded part is handled; a failure in the handler, if the guarded part
    raises without any, is not -/
theorem failures_tryCatch (m : PE α) (h : Exc → PE α) (w : World) :
    Prog.failures (tryCatch m h : PE α) w =
      (Prog.failures m w).map (fun x => match x.1 with
        | .ok a => (.ok a, x.2)
        | .error e => Prog.run (h e) x.2) ++
      (match (Prog.run m w).1 with
        | .ok _ => []
        | .error e => Prog.failures (h e) (Prog.run m w).2) := by
  refine (Prog.failures_bind (α := Except Exc α) m _ w).trans ?_
  congr 1
  · apply List.map_congr_left
    intro x _
    cases x.1 <;> rfl
  · cases (Prog.run m w).1 <;> rfl

theorem failures_withFinally (m : PE α) (fin : PE Unit) (w : World) :
    Prog.failures (PE.withFinally m fin) w =
      (Prog.failures m w).map (fun x => Prog.run (PE.withFinally (Prog.ret x.1) fin) x.2) ++
      (Prog.failures fin (Prog.run m w).2).map (fun x => (match x.1 with
        | .ok _ => (Prog.run m w).1
        | .error e => .error e, x.2)) := by
  refine (Prog.failures_bind (α := Except Exc α) m _ w).trans ?_
  rw [Prog.failures_bind (α := Except Exc Unit) fin]
  congr 1
  generalize Prog.run fin (Prog.run m w).2 = y
  obtain ⟨r, w'⟩ := y
  cases r <;> simp only [Prog.failures, List.append_nil] <;>
    (apply List.map_congr_left; intro x _; cases x.1 <;> rfl)

theorem failures_ofExcept (x : Except Exc α) (w : World) : Prog.failures (PE.ofExcept x) w = [] := by
  cases x <;> rfl

end PE
end HS
