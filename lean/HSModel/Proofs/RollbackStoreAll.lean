/-
  RollbackStoreAll — the immediate retry after a rolled-back store_object, and
  completeness of the generated site lists.
-/
import HSModel.Proofs.RollbackStore
namespace HS
variable (cfg : Config) (o : Oracle)

/-- after a rolled-back failure the same `store_object` call, made again at once
    (the spent plan still in place), returns normally and the data is retrievable -/
theorem store_retry_after_rollback (st : Store) (p : Str) (t : Tok) (r : Except Exc Val) (w' : World)
    (hp : checkStringOk p = true) (hok : OkDigests o) (hnl : AllNl st.cidRefs)
    (hfree : st.objs.get (o.dig cfg.alg t) = none ∨ st.objs.get (o.dig cfg.alg t) = some t)
    (hrb : RolledBackStore cfg o p t st r w') (herr : ∀ v, r ≠ .ok v) :
    ∃ m w2, (storeObject cfg o (.str p) (.ok t) .none .none .none .none).run w' = (.ok (.objMeta m), w2) ∧
      ((retrieveObject cfg o (.str p)).run { w2 with fault := none }).1 = .ok (.content t) := by
  obtain ⟨hlk, hcase⟩ := hrb
  rcases hcase with ⟨v, hv⟩ | ⟨hgone, hnl', hobjs, f', hf', hpers, hfired⟩
  · exact absurd hv (herr v)
  · have hfree' : w'.st.objs.get (o.dig cfg.alg t) = none ∨ w'.st.objs.get (o.dig cfg.alg t) = some t := by
      cases hx : w'.st.objs.get (o.dig cfg.alg t) with
      | none => exact Or.inl rfl
      | some y =>
        right
        rcases hobjs _ _ hx with h | ⟨_, h⟩
        · rcases hfree with h0 | h0
          · rw [h0] at h; cases h
          · rw [h0] at h; injection h with h; rw [h]
        · rw [h]
    obtain ⟨st', lk, fault, log⟩ := w'
    simp only at hlk hf'
    subst hlk hf'
    obtain ⟨m, w2, hrun, _, hnf2, hret⟩ := store_any cfg o st' log p t hp hok hgone (hnl' hnl) hfree'
    have hsp := Prog.run_spent (storeObject cfg o (.str p) (.ok t) .none .none .none .none) (calm st' log) rfl f' hfired hpers
    rw [hrun] at hsp
    refine ⟨m, { w2 with fault := some f' }, hsp, ?_⟩
    have hw2 : ({ ({ w2 with fault := some f' } : World) with fault := none } : World) = w2 := world_eta_none w2 hnf2
    rw [hw2]; exact hret

end HS

namespace HS
variable (cfg : Config) (o : Oracle)

local macro "sites_simp" hp:ident hc:ident h1:ident h2:ident ho:ident hv:ident hac:ident extra:term "," extra2:term "," extra3:term "," extra4:term : tactic =>
  `(tactic| simp [sitesOfRun, calm, calmL, moveAndGetChecksums, tagObject, storeRefs, runsimp, Prog.runLog,
    checkString_of_ok $hp, checkString_of_ok $hc, $h1:ident, $h2:ident, $ho:ident, $hv:ident, $hac:ident,
    checkArgData, checkInteger, openStream, strArg, writeRefsTmp, verifyRefs, updateRefsAdd, renderLines_snoc, Ev.sites,
    numberSites, $extra:term, $extra2:term, $extra3:term, $extra4:term])

theorem mv_sites_absent (l : List Str) (st : Store) (log : List Eff) (p : Str) (t : Tok)
    (ho : st.objs.get (o.dig cfg.alg t) = none) :
    (Prog.events (moveAndGetChecksums cfg o (some p) t none none none .none) (calmL l st log)).flatMap Ev.sites =
      [(.mkTmp, .tmp .obj), (.mkdirs, .dir .obj (o.dig cfg.alg t)), (.rename, .loc (.obj (o.dig cfg.alg t)))] := by
  simp [Prog.events, calmL, moveAndGetChecksums, runsimp, Prog.runLog, verdict_plain o t, ho, Ev.sites]

theorem mv_sites_present (l : List Str) (st : Store) (log : List Eff) (p : Str) (t x : Tok)
    (ho : st.objs.get (o.dig cfg.alg t) = some x) :
    (Prog.events (moveAndGetChecksums cfg o (some p) t none none none .none) (calmL l st log)).flatMap Ev.sites =
      [(.mkTmp, .tmp .obj), (.remove, .tmp .obj)] := by
  simp [Prog.events, calmL, moveAndGetChecksums, runsimp, Prog.runLog, verdict_plain o t, ho, Ev.sites]

/-- the sites of `store_object` are those of placing the object, then those of `tag_object`
    from a store with the same references -/
theorem store_sites_raw (st : Store) (log : List Eff) (p : Str) (t : Tok) (hp : checkStringOk p = true)
    (hok : OkDigests o) (h1 : st.pidRefs.get (o.hId p) = none) (hs : Taggable p (o.dig cfg.alg t) st) :
    ∃ st1 log1, st1.pidRefs = st.pidRefs ∧ st1.cidRefs = st.cidRefs ∧
      sitesOfRun (storeObject cfg o (.str p) (.ok t) .none .none .none .none) (calm st log) = numberSites []
        ((Prog.events (moveAndGetChecksums cfg o (some p) t none none none .none) (calmL [p] st log)).flatMap Ev.sites ++
         (Prog.events (tagObject cfg o (.str p) (.str (o.dig cfg.alg t))) (calmL [p] st1 log1)).flatMap Ev.sites) := by
  obtain ⟨st1, log1, hrun1, f1, f2, _⟩ := mv_run_pid_spec cfg o [p] st log p t none none none .none
  rw [verdict_plain o t] at hrun1
  have hs' : Taggable p (o.dig cfg.alg t) st1 := by unfold Taggable; rw [f2]; exact hs
  obtain ⟨st2, log2, hrun2⟩ := tag_taggable_ok cfg o [p] st1 log1 p _ hp (hok cfg.alg t) (f1 ▸ h1) hs'
  have hip : Prog.run (inProgress p) (calm st log) = (.ok false, calm st log) := by simp [calm, calmL, runsimp]
  have hacq : Prog.run (acquire .objPid p) (calm st log) = (.ok (), calmL [p] st log) := by simp [calm, calmL, runsimp]
  have e0 : ∀ w, Prog.events (inProgress p) w = [.inProgress p] := fun w => rfl
  have e1 : ∀ w, Prog.events (acquire .objPid p) w = [.acquire .objPid p] := fun w => rfl
  have e2 : ∀ w, Prog.events (release .objPid p) w = [.release .objPid p] := fun w => rfl
  have e3 : ∀ (v : Val) w, Prog.events (pure v : PE Val) w = [] := fun _ _ => rfl
  refine ⟨st1, log1, f1, f2, ?_⟩
  show numberSites [] ((Prog.events _ _).flatMap Ev.sites) = _
  rw [store_shape cfg o p t hp, PE.events_bind, hip]
  simp only [Bool.false_eq_true, if_false, PE.events_withFinally, PE.events_bind, hacq, hrun1, hrun2, e0, e1, e2, e3,
    List.flatMap_append, List.flatMap_cons, List.flatMap_nil, List.append_nil, Ev.sites, List.nil_append]

theorem store_sites_absent_new_complete (st : Store) (log : List Eff) (p : Str) (t : Tok) (hp : checkStringOk p = true)
    (hok : OkDigests o) (h1 : st.pidRefs.get (o.hId p) = none) (h2 : st.cidRefs.get (o.dig cfg.alg t) = none)
    (ho : st.objs.get (o.dig cfg.alg t) = none) :
    sitesOfRun (storeObject cfg o (.str p) (.ok t) .none .none .none .none) (calm st log) = storeSites_absent_new cfg o p t := by
  obtain ⟨st1, log1, f1, f2, h⟩ := store_sites_raw cfg o st log p t hp hok h1 (Or.inl h2)
  rw [h, mv_sites_absent cfg o [p] st log p t ho,
    tag_sites_new_raw cfg o [p] st1 log1 p _ hp (hok cfg.alg t) (f1 ▸ h1) (f2 ▸ h2)]
  simp [tagSitesNew, storeSites_absent_new, numberSites]

theorem store_sites_present_new_complete (st : Store) (log : List Eff) (p : Str) (t x : Tok) (hp : checkStringOk p = true)
    (hok : OkDigests o) (h1 : st.pidRefs.get (o.hId p) = none) (h2 : st.cidRefs.get (o.dig cfg.alg t) = none)
    (ho : st.objs.get (o.dig cfg.alg t) = some x) :
    sitesOfRun (storeObject cfg o (.str p) (.ok t) .none .none .none .none) (calm st log) = storeSites_present_new cfg o p t := by
  obtain ⟨st1, log1, f1, f2, h⟩ := store_sites_raw cfg o st log p t hp hok h1 (Or.inl h2)
  rw [h, mv_sites_present cfg o [p] st log p t x ho,
    tag_sites_new_raw cfg o [p] st1 log1 p _ hp (hok cfg.alg t) (f1 ▸ h1) (f2 ▸ h2)]
  simp [tagSitesNew, storeSites_present_new, numberSites]

theorem store_sites_absent_app_complete (st : Store) (log : List Eff) (p : Str) (t : Tok) (ls : List Str)
    (hp : checkStringOk p = true) (hok : OkDigests o) (h1 : st.pidRefs.get (o.hId p) = none)
    (h2 : st.cidRefs.get (o.dig cfg.alg t) = some (renderLines ls)) (hls : ∀ l ∈ ls, hasSpace l = false) (hnot : p ∉ ls)
    (ho : st.objs.get (o.dig cfg.alg t) = none) :
    sitesOfRun (storeObject cfg o (.str p) (.ok t) .none .none .none .none) (calm st log) = storeSites_absent_app cfg o p t := by
  obtain ⟨st1, log1, f1, f2, h⟩ := store_sites_raw cfg o st log p t hp hok h1 (taggable_of_lines h2 hls hnot)
  rw [h, mv_sites_absent cfg o [p] st log p t ho,
    tag_sites_append_raw cfg o [p] st1 log1 p _ ls hp (hok cfg.alg t) (f1 ▸ h1) (f2 ▸ h2) hls hnot]
  simp [tagSitesAppend, storeSites_absent_app, numberSites]

theorem store_sites_present_app_complete (st : Store) (log : List Eff) (p : Str) (t x : Tok) (ls : List Str)
    (hp : checkStringOk p = true) (hok : OkDigests o) (h1 : st.pidRefs.get (o.hId p) = none)
    (h2 : st.cidRefs.get (o.dig cfg.alg t) = some (renderLines ls)) (hls : ∀ l ∈ ls, hasSpace l = false) (hnot : p ∉ ls)
    (ho : st.objs.get (o.dig cfg.alg t) = some x) :
    sitesOfRun (storeObject cfg o (.str p) (.ok t) .none .none .none .none) (calm st log) = storeSites_present_app cfg o p t := by
  obtain ⟨st1, log1, f1, f2, h⟩ := store_sites_raw cfg o st log p t hp hok h1 (taggable_of_lines h2 hls hnot)
  rw [h, mv_sites_present cfg o [p] st log p t x ho,
    tag_sites_append_raw cfg o [p] st1 log1 p _ ls hp (hok cfg.alg t) (f1 ▸ h1) (f2 ▸ h2) hls hnot]
  simp [tagSitesAppend, storeSites_present_app, numberSites]

end HS
