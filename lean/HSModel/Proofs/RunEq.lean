/-
  RunEq — run equations: what each combinator, each primitive and each
  sub-program of the calls does when run from a world without fault plan.
  A closed form of a call follows from these by rewriting; nothing below a
  sub-program is unfolded again.
-/
import HSModel.Proofs.RunSimpAttr
import HSModel.Calls
namespace HS

attribute [runsimp] PE.ofExcept PE.withFinally bind PE.bind' PE.pure' PE.throw' PE.tryCatch' Prog.bind
  Prog.run acquire release unitPrim PE.prim respond faultStep respondCore eff isFile readRef readOpen readObj
  readDoc sizeIsZero listDocs inProgress isLocked openTmpWrite Locks.get Locks.put applyEff Store.apply
  Store.isFile Store.retire Store.remove FMap.contains tryCatch pure throw Store.setTmp Store.tmpCount

theorem Prog.run_bind {α β : Type} (m : Prog α) (f : α → Prog β) (w : World) :
    (Prog.bind m f).run w = (f (m.run w).1).run (m.run w).2 := by
  induction m generalizing w with
  | ret a => rfl
  | op e k ih => simp only [Prog.bind, Prog.run]; exact ih _ _

theorem Prog.run_bind_pe {α β : Type} (m : PE α) (f : Except Exc α → Prog β) (w : World) :
    (Prog.bind m f).run w = (f (Prog.run m w).1).run (Prog.run m w).2 := Prog.run_bind m f w

/- evaluating a store or lock operation is part of executing a primitive -/
attribute [runeq] Locks.get Locks.put Store.apply Store.isFile Store.retire Store.remove Store.setTmp Store.tmpCount
  FMap.contains

/-! ### combinators (any world) -/
section comb
variable {α β : Type}

@[runeq] theorem run_pure (a : α) (w : World) : Prog.run (pure a : PE α) w = (.ok a, w) := rfl
@[runeq] theorem run_throw (e : Exc) (w : World) : Prog.run (throw e : PE α) w = (.error e, w) := rfl
@[runeq] theorem run_ofExcept (x : Except Exc α) (w : World) : Prog.run (PE.ofExcept x) w = (x, w) := by
  cases x <;> rfl

@[runeq] theorem run_bind (m : PE α) (f : α → PE β) (w : World) :
    Prog.run (α := Except Exc β) (m >>= f : PE β) w =
      match (Prog.run m w).1 with
      | .ok a => Prog.run (f a) (Prog.run m w).2
      | .error e => (.error e, (Prog.run m w).2) := by
  refine (Prog.run_bind (α := Except Exc α) m _ w).trans ?_
  cases (Prog.run m w).1 <;> rfl

@[runeq] theorem run_tryCatch (m : PE α) (h : Exc → PE α) (w : World) :
    Prog.run (α := Except Exc α) (tryCatch m h : PE α) w =
      match (Prog.run m w).1 with
      | .ok a => (.ok a, (Prog.run m w).2)
      | .error e => Prog.run (h e) (Prog.run m w).2 := by
  refine (Prog.run_bind (α := Except Exc α) m _ w).trans ?_
  cases (Prog.run m w).1 <;> rfl

@[runeq] theorem run_withFinally (m : PE α) (fin : PE Unit) (w : World) :
    Prog.run (PE.withFinally m fin) w =
      match (Prog.run fin (Prog.run m w).2).1 with
      | .ok _ => ((Prog.run m w).1, (Prog.run fin (Prog.run m w).2).2)
      | .error e => (.error e, (Prog.run fin (Prog.run m w).2).2) := by
  refine (Prog.run_bind (α := Except Exc α) m _ w).trans ((Prog.run_bind (α := Except Exc Unit) fin _ _).trans ?_)
  cases (Prog.run fin (Prog.run m w).2).1 <;> rfl

end comb

/-! ### primitives (no fault plan) -/
section prim
variable (st : Store) (lk : Locks) (log : List Eff)

@[runeq] theorem run_isFile (l : Loc) :
    Prog.run (isFile l) ⟨st, lk, none, log⟩ = (.ok (st.isFile l), ⟨st, lk, none, log⟩) := rfl

@[runeq] theorem run_readPidRef (k : Str) :
    Prog.run (readRef (.pidRef k)) ⟨st, lk, none, log⟩ =
      (match st.pidRefs.get k with | some t => .ok t | none => .error .fileNotFound, ⟨st, lk, none, log⟩) := by
  simp only [runsimp]; cases st.pidRefs.get k <;> rfl

@[runeq] theorem run_readCidRef (c : Str) :
    Prog.run (readRef (.cidRef c)) ⟨st, lk, none, log⟩ =
      (match st.cidRefs.get c with | some t => .ok t | none => .error .fileNotFound, ⟨st, lk, none, log⟩) := by
  simp only [runsimp]; cases st.cidRefs.get c <;> rfl

@[runeq] theorem run_readOpenCid (c : Str) :
    Prog.run (readOpen (.cidRef c)) ⟨st, lk, none, log⟩ =
      (match st.cidRefs.get c with | some t => .ok t | none => .error .fileNotFound, ⟨st, lk, none, log⟩) := by
  simp only [runsimp]; cases st.cidRefs.get c <;> rfl

@[runeq] theorem run_readObj (c : Str) :
    Prog.run (readObj c) ⟨st, lk, none, log⟩ =
      (match st.objs.get c with | some t => .ok t | none => .error .fileNotFound, ⟨st, lk, none, log⟩) := by
  simp only [runsimp]; cases st.objs.get c <;> rfl

@[runeq] theorem run_readDoc (d n : Str) :
    Prog.run (readDoc d n) ⟨st, lk, none, log⟩ =
      (match st.mdocs.get (d, n) with | some t => .ok t | none => .error .fileNotFound, ⟨st, lk, none, log⟩) := by
  simp only [runsimp]; cases st.mdocs.get (d, n) <;> rfl

@[runeq] theorem run_sizeIsZero (c : Str) :
    Prog.run (sizeIsZero c) ⟨st, lk, none, log⟩ =
      (match st.cidRefs.get c with | some t => .ok t.isEmpty | none => .error .fileNotFound, ⟨st, lk, none, log⟩) := by
  simp only [runsimp]; cases st.cidRefs.get c <;> rfl

@[runeq] theorem run_listDocs (d : Str) :
    Prog.run (listDocs d) ⟨st, lk, none, log⟩ =
      (.ok (if (Area.mdata, d) ∈ st.dirs then some (st.listDocs d) else none), ⟨st, lk, none, log⟩) := rfl

@[runeq] theorem run_eff (e : Eff) :
    Prog.run (eff e) ⟨st, lk, none, log⟩ =
      match st.apply e with
      | some s => (.ok (), ⟨s, lk, none, log ++ [e]⟩)
      | none => (.error .fileNotFound, ⟨st, lk, none, log⟩) := by
  simp only [eff, unitPrim, PE.prim, Prog.run, respond, faultStep, respondCore, applyEff]
  cases st.apply e <;> rfl

@[runeq] theorem run_openTmpWrite (a : TmpArea) :
    Prog.run (openTmpWrite a) ⟨st, lk, none, log⟩ = (.ok (), ⟨st, lk, none, log⟩) := rfl

@[runeq] theorem run_acquire (c : LockClass) (id : Str) :
    Prog.run (acquire c id) ⟨st, lk, none, log⟩ =
      if id ∈ lk.get c then (.error .blocked, ⟨st, lk, none, log⟩)
      else (.ok (), ⟨st, lk.put c (lk.get c ++ [id]), none, log⟩) := by
  by_cases h : id ∈ lk.get c <;> simp [acquire, unitPrim, PE.prim, Prog.run, respond, faultStep, respondCore, h]

@[runeq] theorem run_release (c : LockClass) (id : Str) :
    Prog.run (release c id) ⟨st, lk, none, log⟩ =
      if id ∈ lk.get c then (.ok (), ⟨st, lk.put c ((lk.get c).erase id), none, log⟩)
      else (.error .valueError, ⟨st, lk, none, log⟩) := by
  by_cases h : id ∈ lk.get c <;> simp [release, unitPrim, PE.prim, Prog.run, respond, faultStep, respondCore, h]

@[runeq] theorem run_isLocked (c : LockClass) (id : Str) :
    Prog.run (isLocked c id) ⟨st, lk, none, log⟩ = (.ok (decide (id ∈ lk.get c)), ⟨st, lk, none, log⟩) := rfl

@[runeq] theorem run_inProgress (p : Str) :
    Prog.run (inProgress p) ⟨st, lk, none, log⟩ = (.ok (decide (p ∈ lk.objPid)), ⟨st, lk, none, log⟩) := rfl

end prim

end HS
