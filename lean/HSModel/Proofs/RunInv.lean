/-
  RunInv — from a static discipline (`AllEv P`) and a per-primitive
  preservation fact to invariants of whole executions: the sequential run, every
  crash prefix, every intermediate state. Helper lemmas.
-/
import HSModel.Proofs.AllEv
import HSModel.Proofs.StoreStep
import HSModel.Proofs.Respond
namespace HS
namespace Prog
variable {α : Type} {P : Ev → Prop} {I : World → Prop}

/-- `I` survives every primitive that satisfies `P` -/
def Preserved (P : Ev → Prop) (I : World → Prop) : Prop :=
  ∀ w e, P e → I w → I (respond w e).2

theorem run_inv (m : Prog α) (hm : m.AllEv P) (hp : Preserved P I) (w : World) (hw : I w) :
    I (m.run w).2 := by
  induction m generalizing w with
  | ret a => exact hw
  | op e k ih =>
    simp only [run]
    exact ih _ (hm.2 _) _ (hp w e hm.1 hw)

/-- the state left by a crash before any effect number `n` -/
theorem crashAt_inv (m : Prog α) (hm : m.AllEv P) (hp : Preserved P I) (n : Nat) (w : World) (hw : I w) :
    I (crashAt n m w).2 := by
  induction m generalizing w n with
  | ret a => simp only [crashAt]; exact hw
  | op e k ih =>
    cases e with
    | eff x =>
      cases n with
      | zero => simp only [crashAt]; exact hw
      | succ n =>
        simp only [crashAt]
        exact ih _ (hm.2 _) n _ (hp w _ hm.1 hw)
    | _ =>
      simp only [crashAt]
      exact ih _ (hm.2 _) n _ (hp w _ hm.1 hw)

/-- every intermediate store recorded by `runSnap` satisfies `J`, if every world
    reached does -/
theorem runSnap_inv {J : Store → Prop} (m : Prog α) (hm : m.AllEv P) (hp : Preserved P I)
    (hj : ∀ w, I w → J w.st) (w : World) (hw : I w) (acc : List Store) (hacc : ∀ s ∈ acc, J s) :
    ∀ s ∈ (runSnap m w acc).2.2, J s := by
  induction m generalizing w acc with
  | ret a =>
    simp only [runSnap]
    intro s hs
    exact hacc s (List.mem_reverse.mp hs)
  | op e k ih =>
    have hw' := hp w e hm.1 hw
    cases e with
    | eff x =>
      simp only [runSnap]
      split
      · apply ih _ (hm.2 _) _ hw'
        intro s hs
        rcases List.mem_cons.mp hs with rfl | hs
        · exact hj _ hw'
        · exact hacc s hs
      · exact ih _ (hm.2 _) _ hw' _ hacc
    | _ =>
      simp only [runSnap]
      exact ih _ (hm.2 _) _ hw' _ hacc

end Prog

/-- a store invariant that survives every allowed effect is `Preserved`: only an effect that
    succeeds changes the store -/
theorem preserved_of_store {P : Ev → Prop} {J : Store → Prop}
    (h : ∀ s x, P (.eff x) → J s → J (s.after x)) : Prog.Preserved P (fun w => J w.st) := by
  intro w e hp hw
  show J (respond w e).2.st
  rcases respond_store_cases w e with h0 | ⟨x, s', rfl, ha, hs⟩
  · rw [h0]; exact hw
  · rw [hs, Store.apply_eq_some ha]; exact h _ _ hp hw

end HS
