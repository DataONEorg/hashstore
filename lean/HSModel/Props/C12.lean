/-
  C12 — Concurrent metadata operations are atomic and linearizable.   (`_partial`)
  Proved:
   * a document changes only by a whole-file publish / retire / remove (C09's
     atomicity lemma), so a reader gets one complete version or not-found;
   * the document lock: every call takes and returns the `doc` class in order and
     holds nothing at the end (C08), mutual exclusion holds on document names
     for every schedule;
   * two single-document deletes exclude each other (a thread at the acquire is not
     enabled while the name is held): `single_document_deletes_exclude`.
   * the single-document class {store_metadata(p, f, ·), delete_metadata(p, f)} is
     linearizable, for any number of threads and every schedule
     (`single_document_class_serialises`, `…_linearizable`): all work of these
     calls lies between the claim and the release of the document name
     (`Proofs/Serial.lean`: serialisation of bracketed threads).
   * readers: `reader_gets_one_whole_version` — any number of threads running ANY calls on any
     pids and formats (stores, deletes of one or all documents, `delete_object`, readers), every
     schedule, every granularity of interleaving down to single primitives: a
     `retrieve_metadata` that returns normally returns one complete version — one that was in the
     store at the start or that one of the concurrent `store_metadata` calls supplied — and
     every document in the directory is such a version at every step (so "the final document is
     a complete supplied version or is absent").
  Not proved: that the version a reader gets is the one a sequential order would give it when
  writers of the same document overlap it, and mixes with `delete_object`.
  Refuted: with `delete_metadata(p)` (all formats) in the menu the full statement is
  false — the directory is listed before any name is claimed (K3); witness by
  `decide`, replayed on the real threads on every run.
  Repaired defect D7 (wait loops tested the pid instead of the document name) is
  documented in known_findings.json; the model has the repaired behaviour.
-/
import HSModel.Props.C09
import HSModel.Proofs.ConcLemmas
import HSModel.Proofs.LockLemmas
import HSModel.Proofs.SerialSpec
namespace HS.C12

/-- a metadata document changes value only by a whole-file step -/
theorem documents_change_atomically (s s' : Store) (x : Eff) (ha : s.apply x = some s')
    (hne : s'.mdocs ≠ s.mdocs) :
    (∃ d n t, x = .publishDoc d n t) ∨ (∃ l, x = .retire l) ∨ (∃ l, x = .remove l) := by
  cases Store.apply_eq_some ha
  cases x with
  | publishDoc d n t => exact .inl ⟨d, n, t, rfl⟩
  | retire l => exact .inr (.inl ⟨l, rfl⟩)
  | remove l => exact .inr (.inr ⟨l, rfl⟩)
  | _ => exact absurd rfl hne

/-- the monitor gives mutual exclusion on document names -/
theorem doc_mutex (s : Sys) (r : Reach Sys.initial s) (i j : Nat) (n : Str)
    (hi : (⟨.doc, n⟩ : Lock) ∈ (s i).held) (hj : (⟨.doc, n⟩ : Lock) ∈ (s j).held) : i = j :=
  (inv_reach _ _ inv_initial r).1.1 i j _ hi hj

/-! ### K3: delete-all lists the directory before claiming a name -/

def oW : Oracle :=
  { hId := fun s => 'h' :: s, dig := fun _ t => if t = 1 then "cx".toList else "cy".toList, size := fun _ => 1 }
def cfgW : Config := { depth := 1, width := 1, alg := "sha256".toList, ns := "ns".toList }
def sched (s : String) : List Nat := s.toList.map fun c => c.toNat - 48
def p1 : SArg := .str "p1".toList
def resOf : TState → Option (Except Exc Val)
  | .finished r => some r
  | _ => none
/-- start: p1 has one document -/
def wDoc : World := ((storeMetadata cfgW oW p1 (.ok 1) .none).run { st := Store.empty }).2

/-- two concurrent `delete_metadata(p1)`: T0 lists the directory, T1 deletes the
    document, T0 then tries to rename what it listed and fails with
    FileNotFoundError — sequentially both calls succeed (the second is a no-op) -/
def k3 : Conf × Nat := runSchedule 1000
  { w := wDoc, ts := [.fresh (deleteMetadata cfgW oW p1 .none), .fresh (deleteMetadata cfgW oW p1 .none)] }
  (sched "011111000") 0

theorem k3_delete_all_race :
    k3.2 = 9 ∧ k3.1.allFinished = true ∧
    (k3.1.ts.map resOf)[0]? = some (some (.error .fileNotFound)) ∧
    (k3.1.ts.map resOf)[1]? = some (some (.ok .unit)) := by decide

/-- whereas two concurrent single-document deletes exclude each other: with the same
    kind of schedule the second thread is simply not enabled while the first holds
    the document name (the behaviour repaired by the fix of D7) -/
def d7 : Conf × Nat := runSchedule 1000
  { w := wDoc, ts := [.fresh (deleteMetadata cfgW oW p1 (.str "ns".toList)),
                      .fresh (deleteMetadata cfgW oW p1 (.str "ns".toList))] }
  (sched "0011") 0

theorem single_document_deletes_exclude : d7.2 = 3 ∧ d7.1.anyEnabled = true := by decide

/-! ### the single-document class -/

/-- **The single-document class serialises.** Any number of threads, each a
    `store_metadata` or a `delete_metadata(pid, format)` call whose document name
    is `doc` (or a call rejected for its arguments); any start world in which
    `doc` is not claimed — any directory, any other identifiers held, any fault
    plan —; any schedule of the interleaving semantics, any step budget. When all
    calls have returned, the world (directory, lock lists, fault plan, effect
    log) is exactly the one reached by running the calls whole, one after the
    other, in some order, and each call returned what it returns in that
    sequential run: the final document is the last-ordered version or absent,
    and no call fails with an error the sequential run does not produce. -/
theorem single_document_class_serialises (cfg : Config) (o : Oracle) (doc : Str) (calls : List Call)
    (hc : ∀ x ∈ calls, OnDoc cfg o doc x) (w0 : World) (h0 : doc ∉ w0.lk.doc) (fuel : Nat) (sched : List Nat) :
    let progs := calls.map (Call.tprog cfg o)
    let fin := (runSchedule fuel { w := w0, ts := progs.map .fresh } sched 0).1
    fin.allFinished = true →
    ∃ order : List Nat, order.Nodup ∧ (∀ j, j ∈ order ↔ j < calls.length) ∧
      fin.w = (seqRun progs order w0).1 ∧
      ∀ (j : Nat) (t : TState), fin.ts[j]? = some t → ∃ v, t = TState.finished v ∧ (j, v) ∈ (seqRun progs order w0).2 := by
  exact serial_of_bracketed cfg o .doc doc calls
    (fun x hx => Prog.bracketedU_of_bracketed _ (onDoc_bracketed cfg o doc x (hc x hx))) w0 h0 fuel sched

/-- … and is linearizable with respect to the specification: started on a
    directory that simulates `a` (in particular after any history from the empty
    store), with nothing claimed and no fault plan, there is an order of the
    calls in which `Abs.step`, run call after call from `a`, returns exactly what
    the threads returned, and the final directory simulates its final state. -/
theorem single_document_class_linearizable (cfg : Config) (o : Oracle) (doc : Str) (calls : List Call)
    (hc : ∀ x ∈ calls, OnDoc cfg o doc x) (st : Store) (log : List Eff) (a : Abs) (hs : Sim o st a)
    (ho : GoodOracle o) (fuel : Nat) (sched : List Nat) :
    let fin := (runSchedule fuel { w := calm st log, ts := (calls.map (Call.tprog cfg o)).map .fresh } sched 0).1
    fin.allFinished = true →
    ∃ order : List Nat, order.Nodup ∧ (∀ j, j ∈ order ↔ j < calls.length) ∧
      Sim o fin.w.st (specHist cfg o (pick calls order) a).2 ∧ fin.w.lk = {} ∧
      ∀ (j : Nat) (t : TState), fin.ts[j]? = some t →
        ∃ v, t = TState.finished v ∧ (j, v) ∈ order.zip (specHist cfg o (pick calls order) a).1 :=
  linearizable_of_bracketed cfg o .doc doc calls
    (fun x hx => Prog.bracketedU_of_bracketed _ (onDoc_bracketed cfg o doc x (hc x hx)))
    (fun x hx => by
      have := hc x hx
      cases x <;> first | trivial | exact this.elim)
    st log a hs ho fuel sched

/-! the hypotheses are satisfiable: three calls on one document, an interleaved
    schedule after which all have returned (a test of the statement on literals) -/
def callsS : List Call :=
  [.storeMetadata p1 (.ok 1) .none, .deleteMetadata p1 (.str "ns".toList), .storeMetadata p1 (.ok 2) .none]
def serialDemo : Conf × Nat := runSchedule 1000
  { w := { st := Store.empty }, ts := (callsS.map (Call.tprog cfgW oW)).map .fresh } (sched "1200000022222111") 0
example : serialDemo.1.allFinished = true ∧ serialDemo.2 = 16 := by decide
example : ∀ x ∈ callsS, OnDoc cfgW oW "hp1ns".toList x := by
  have hp : checkString p1 = .ok "p1".toList := by decide
  have hf1 : checkArgFormatId cfgW.ns .none = .ok "ns".toList := by decide
  have hf2 : checkArgFormatId cfgW.ns (.str "ns".toList) = .ok "ns".toList := by decide
  intro x hx
  simp only [callsS, List.mem_cons, List.not_mem_nil, or_false] at hx
  rcases hx with rfl | rfl | rfl
  · intro p f h1 h2; rw [hp] at h1; rw [hf1] at h2; cases h1; cases h2; rfl
  · refine ⟨(by intro h; cases h), ?_⟩
    intro p f h1 h2; rw [hp] at h1; rw [hf2] at h2; cases h1; cases h2; rfl
  · intro p f h1 h2; rw [hp] at h1; rw [hf1] at h2; cases h1; cases h2; rfl

/-! ### readers beside writers -/

/-- **A reader gets one complete version or an error; documents are whole at every step.**
    Any number of threads running any calls (writers and deleters of the same or other documents,
    `delete_object`, readers), from any world whose documents hold versions from `ts0`, every
    schedule, every granularity (`fuel = 1`: one primitive per step, so a reader may be
    overtaken between its existence probe and its read): at every step every document holds a
    version from `ts0` or one a `store_metadata` call of the set supplied, and a
    `retrieve_metadata` that has returned normally returned such a version. -/
theorem reader_gets_one_whole_version (cfg : Config) (o : Oracle) (calls : List Call) (w0 : World)
    (vs0 : List Str) (ts0 : List Tok) (hv : C09.ValuesFrom vs0 ts0 w0.st) (hob : C09.ObjsAddressed cfg o w0.st)
    (fuel : Nat) (sched : List Nat) (n : Nat) :
    let cf := (runSchedule fuel { w := w0, ts := calls.map (fun c => TState.fresh (c.prog cfg o)) } sched n).1
    let ts := ts0 ++ calls.flatMap C09.docsSupplied
    (∀ d m t, cf.w.st.mdocs.get (d, m) = some t → t ∈ ts) ∧
    ∀ (i : Nat) (r : Except Exc Val) (pid f : SArg), cf.ts[i]? = some (.finished r) →
      calls[i]? = some (.retrieveMetadata pid f) → ∀ t, r = .ok (.content t) → t ∈ ts := by
  intro cf ts
  have h := C09.whole_under_every_interleaving cfg o calls w0 vs0 ts0 hv hob fuel sched n
  exact ⟨h.1.2, fun i r pid f hi hc => (h.2.2 i r hi).1 pid f hc⟩

/-- tests of the statement on literals: a writer, a reader and a deleter of one document, one
    primitive per step. (a) the reader runs after the writer: it returns version 1; (b) the
    reader is overtaken by the deleter between its existence probe and its read: it returns a
    not-found error, not a partial document -/
def readerCalls : List Call := [.storeMetadata p1 (.ok 1) .none, .retrieveMetadata p1 .none, .deleteMetadata p1 .none]
def readerDemo (s : List Nat) : Conf × Nat := runSchedule 1
  { w := { st := Store.empty }, ts := readerCalls.map (fun c => TState.fresh (c.prog cfgW oW)) } s 0
def finishedWith : Option TState → Option (Except Exc Val)
  | some (.finished r) => some r
  | _ => none
example : finishedWith (readerDemo (List.replicate 6 0 ++ [1, 1, 1])).1.ts[1]? = some (.ok (.content 1)) := by decide
example : (readerDemo (List.replicate 6 0 ++ [1] ++ List.replicate 6 2 ++ [1, 1])).1.allFinished = true ∧
    finishedWith (readerDemo (List.replicate 6 0 ++ [1] ++ List.replicate 6 2 ++ [1, 1])).1.ts[1]?
      = some (.error .fileNotFound) := by decide

end HS.C12
