/-
  HexReader — `get_hex_digest` beside any writers. Helper lemmas for C02 (uses the invariants of Props/C09).
-/
import HSModel.Props.C09
namespace HS.HexReader
open HS.C09
variable (cfg : Config) (o : Oracle)

/-- what `get_hex_digest` may return: the digest, under some supported algorithm, of content that sits
    at a cid some pid reference held -/
def HexOf (vs : List Str) (G : Str → Tok → Prop) (r : Except Exc Val) : Prop :=
  ∀ d, r = .ok (.hex d) → ∃ a t, d = o.dig a t ∧ ∃ c ∈ vs, G c t

theorem hexDigestCore_safe (P : Ev → Prop) (hP : ∀ e, NoEff e → P e) (vs : List Str) (ts : List Tok)
    (G : Str → Tok → Prop) (pid alg : Str) :
    SafeR P (GoodAnswers vs ts G) (fun d => ∃ t, d = o.dig alg t ∧ ∃ c ∈ vs, G c t) (hexDigestCore cfg o pid alg) := by
  unfold hexDigestCore
  apply safeR_bind _ _ (HS.C09.findObject_safe cfg o P hP vs ts G pid)
  intro cid hcid
  apply safeR_bind (Q := fun _ => True)
  · exact safeR_of_allEv _ (Prog.allEv_mono _ hP (by apply allEv_isFile; trivial))
  intro b _
  try dsimp only
  split
  · thr
  apply safeR_bind (Q := fun t => G cid t)
  · apply safeR_prim _ _ (hP (.readObj _) trivial)
    intro r hr
    cases r <;> first | trivial | exact hr
  intro t ht
  exact safeR_pure _ ⟨t, rfl, cid, hcid, ht⟩

theorem getHexDigest_safe (P : Ev → Prop) (hP : ∀ e, NoEff e → P e) (vs : List Str) (ts : List Tok)
    (G : Str → Tok → Prop) (pid alg : SArg) :
    Prog.Safe P (GoodAnswers vs ts G) (HexOf o vs G) (getHexDigest cfg o pid alg : Prog (Except Exc Val)) := by
  have h : SafeR P (GoodAnswers vs ts G) (fun v => ∀ d, v = Val.hex d → ∃ a t, d = o.dig a t ∧ ∃ c ∈ vs, G c t)
      (getHexDigest cfg o pid alg) := by
    unfold getHexDigest
    apply safeR_bind (Q := fun _ => True)
    · exact safeR_weaken _ (fun _ _ => trivial) (safeR_ofExcept _)
    intro p _
    apply safeR_bind (Q := fun _ => True)
    · exact safeR_weaken _ (fun _ _ => trivial) (safeR_ofExcept _)
    intro a _
    apply safeR_bind (Q := fun _ => True)
    · exact safeR_weaken _ (fun _ _ => trivial) (safeR_ofExcept _)
    intro a' _
    apply safeR_bind _ _ (hexDigestCore_safe cfg o P hP vs ts G p a')
    intro d hd
    apply safeR_pure
    intro d' e
    cases e
    obtain ⟨t, hdt, c, hc, hg⟩ := hd
    exact ⟨a', t, hdt, c, hc, hg⟩
  apply Prog.safe_weaken _ _ h
  intro r hr d e
  subst e
  exact hr d rfl

def hexPost (vs : List Str) : Option Call → Except Exc Val → Prop
  | some (.getHexDigest _ _) => HexOf o vs (AtDigest cfg o)
  | _ => fun _ => True

/-- **`get_hex_digest` returns a true digest, whatever races.** Any number of threads running any
    calls, from any world whose pid references hold values from `vs0` and whose objects sit at their
    digest, every schedule and granularity, any fault plan: a `get_hex_digest(pid, algorithm)` that
    has returned normally returned the digest, under a supported algorithm, of content `t` that sits
    at a cid which was in some pid reference at the start or which a `store_object` / `tag_object` of
    the set supplied — never a digest of foreign or partial bytes. -/
theorem hex_digest_true_under_every_interleaving (calls : List Call) (w0 : World) (vs0 : List Str) (ts0 : List Tok)
    (hv : ValuesFrom vs0 ts0 w0.st) (hob : ObjsAddressed cfg o w0.st) (fuel : Nat) (sched : List Nat) (n : Nat) :
    let cf := (runSchedule fuel { w := w0, ts := calls.map (fun c => TState.fresh (c.prog cfg o)) } sched n).1
    let vs := vs0 ++ calls.flatMap (cidsSupplied cfg o)
    ∀ (i : Nat) (d : Str) (pid alg : SArg), cf.ts[i]? = some (.finished (.ok (.hex d))) →
      calls[i]? = some (.getHexDigest pid alg) →
      ∃ a t, d = o.dig a t ∧ ∃ c ∈ vs, ∃ k, c = o.dig cfg.alg t ++ markers k := by
  intro cf vs i d pid alg hi hc
  let ts := ts0 ++ calls.flatMap docsSupplied
  let P : Ev → Prop := fun e => Supplies vs ts e ∧ PubAtDigest cfg o e
  let I : World → Prop := fun w => ValuesFrom vs ts w.st ∧ ObjsAddressed cfg o w.st
  have hpres : Prog.Preserved P I :=
    preserved_of_store (J := fun s => ValuesFrom vs ts s ∧ ObjsAddressed cfg o s)
      (fun _ _ hx hs => ⟨values_step hx.1 hs.1, objs_step cfg o hx.2 hs.2⟩)
  have hP : ∀ e, NoEff e → P e := fun e he => ⟨supplies_of_noEff vs ts e he, pubAtDigest_of_noEff cfg o e he⟩
  have hall : ∀ c ∈ calls, (c.prog cfg o : Prog (Except Exc Val)).AllEv P := by
    intro c hc'
    apply allEv_and
    · apply Prog.allEv_mono _ _ (call_supplies cfg o [] [] c)
      apply supplies_mono
      · intro v hv'
        simp only [List.nil_append] at hv'
        exact List.mem_append_right _ (List.mem_flatMap.mpr ⟨c, hc', hv'⟩)
      · intro t ht'
        simp only [List.nil_append] at ht'
        exact List.mem_append_right _ (List.mem_flatMap.mpr ⟨c, hc', ht'⟩)
    · exact Prog.allEv_mono _ (pubAtDigest_of_shape cfg o _) (call_shape cfg o c)
  have h0 : SafeConf P (GoodAnswers vs ts (AtDigest cfg o)) I (fun i => hexPost cfg o vs calls[i]?)
      { w := w0, ts := calls.map (fun c => TState.fresh (c.prog cfg o)) } := by
    refine ⟨⟨valuesFrom_mono hv (fun _ h => List.mem_append_left _ h) (fun _ h => List.mem_append_left _ h), hob⟩, ?_⟩
    intro j p hp
    simp only at hp
    cases hcj : calls[j]? with
    | none => rw [List.getElem?_map, hcj] at hp; cases hp
    | some c =>
      rw [List.getElem?_map, hcj] at hp
      cases hp
      have hmem : c ∈ calls := List.mem_of_getElem? hcj
      have key : Prog.Safe P (GoodAnswers vs ts (AtDigest cfg o)) (hexPost cfg o vs (some c))
          (c.prog cfg o : Prog (Except Exc Val)) := by
        cases c with
        | getHexDigest p' a' => exact getHexDigest_safe cfg o P hP vs ts _ p' a'
        | _ => exact Prog.safe_of_allEv _ (hall _ hmem)
      show Prog.Safe P _ (hexPost cfg o vs calls[j]?) _
      rw [hcj]; exact key
  have hfin := safe_schedule hpres (good_answers cfg o vs ts) _ fuel sched _ n h0
  have hq := safe_finished hfin i _ hi
  rw [hc] at hq
  obtain ⟨a, t, hd, c, hcv, k, hk⟩ := hq d rfl
  exact ⟨a, t, hd, c, hcv, k, hk⟩

end HS.HexReader
